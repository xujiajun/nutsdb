/-
  NutsProofs.Facts — expectations about the facts that tools/extract regenerates from /repo on every
  run (NutsGen.Facts): when the code changes one of these facts, the theorem stops checking and the
  properties that rely on it report a broken obligation. The expectations about one piece of source each
  are in `Pins/*.lean` (same namespace), one module per piece, so that a change to that piece breaks the
  obligations of the properties that rest on it and no others.
-/
import NutsGen.Facts
import Nuts.Model.DB
import Nuts.Model.Tx
import Nuts.Model.BPTree
namespace NutsProofs.Facts
open NutsGen.F

def lookup (l : List (String × Int)) (k : String) : Option Int := (l.find? (·.1 == k)).map (·.2)

/-- the model's record flags, structure codes, statuses and header size are the code's -/
theorem consts_ok :
    lookup consts "DataDeleteFlag" = some (Nuts.Model.DB.flagDelete : Nat) ∧
    lookup consts "DataSetFlag" = some (Nuts.Model.DB.flagSet : Nat) ∧
    lookup consts "DataLPushFlag" = some (Nuts.Model.DB.flagLPush : Nat) ∧
    lookup consts "DataRPushFlag" = some (Nuts.Model.DB.flagRPush : Nat) ∧
    lookup consts "DataLRemFlag" = some (Nuts.Model.DB.flagLRem : Nat) ∧
    lookup consts "DataLPopFlag" = some (Nuts.Model.DB.flagLPop : Nat) ∧
    lookup consts "DataRPopFlag" = some (Nuts.Model.DB.flagRPop : Nat) ∧
    lookup consts "DataLSetFlag" = some (Nuts.Model.DB.flagLSet : Nat) ∧
    lookup consts "DataLTrimFlag" = some (Nuts.Model.DB.flagLTrim : Nat) ∧
    lookup consts "DataZAddFlag" = some (Nuts.Model.DB.flagZAdd : Nat) ∧
    lookup consts "DataZRemFlag" = some (Nuts.Model.DB.flagZRem : Nat) ∧
    lookup consts "DataZRemRangeByRankFlag" = some (Nuts.Model.DB.flagZRemRangeByRank : Nat) ∧
    lookup consts "DataZPopMaxFlag" = some (Nuts.Model.DB.flagZPopMax : Nat) ∧
    lookup consts "DataZPopMinFlag" = some (Nuts.Model.DB.flagZPopMin : Nat) ∧
    lookup consts "DataStructureSet" = some (Nuts.Model.DB.dsSet : Nat) ∧
    lookup consts "DataStructureSortedSet" = some (Nuts.Model.DB.dsZSet : Nat) ∧
    lookup consts "DataStructureBPTree" = some (Nuts.Model.DB.dsKV : Nat) ∧
    lookup consts "DataStructureList" = some (Nuts.Model.DB.dsList : Nat) ∧
    lookup consts "DataEntryHeaderSize" = some (Nuts.Model.DB.headerSize : Nat) ∧
    lookup consts "UnCommitted" = some 0 ∧ lookup consts "Committed" = some 1 ∧
    lookup consts "Persistent" = some 0 ∧ lookup consts "ScanNoLimit" = some (-1) ∧
    lookup consts "order" = some 8 ∧
    lookup consts "HintKeyValAndRAMIdxMode" = some 0 ∧ lookup consts "HintKeyAndRAMIdxMode" = some 1 ∧
    lookup consts "HintBPTSparseIdxMode" = some 2 ∧ lookup consts "FileIO" = some 0 ∧ lookup consts "MMap" = some 1 := by
  decide +kernel

theorem separators_ok :
    (sconsts.find? (·.1 == "SeparatorForListKey")).map (·.2) = some "|" ∧
    (sconsts.find? (·.1 == "SeparatorForZSetKey")).map (·.2) = some "|" ∧
    (sconsts.find? (·.1 == "DataSuffix")).map (·.2) = some ".dat" := by
  decide +kernel

/-- **`isFilterEntry`, regenerated.** The model's `isFilter` (which records Merge never rewrites) is the
kernel that `tools/extract` regenerates from the SSA of `DB.isFilterEntry`, with every flag load bound to the
record's flag and the call of `IsExpired` bound to the model's `isExpired` (itself the regenerated `IsExpired`
kernel): a flag added to or dropped from the test, or a changed expiry condition, breaks this theorem. -/
theorem isFilter_is_kernel (r : Nuts.Model.DB.Rec) (now : Nat) :
    Nuts.Model.DB.isFilter r now =
      ((NutsGen.K.db_isFilterEntry.run r.flag r.ttl r.ts (Nuts.Model.DB.isExpired r.ttl r.ts now)
          r.flag r.flag r.flag r.flag r.flag r.flag r.flag r.flag).vals == [1]) := by
  -- every exit of the kernel answers 1, so the tree is the disjunction of its tests, read off test by test
  have exit1 : ∀ (c : Prop) [Decidable c] (x : List Int), ((if c then [1] else x) == [1]) = (decide c || x == [1]) := by
    intro c _ x; split <;> simp [*]
  unfold Nuts.Model.DB.isFilter NutsGen.K.db_isFilterEntry.run
  simp only [Nuts.Model.DB.flagDelete, Nuts.Model.DB.flagRPop, Nuts.Model.DB.flagLPop, Nuts.Model.DB.flagLRem,
    Nuts.Model.DB.flagLTrim, Nuts.Model.DB.flagZRem, Nuts.Model.DB.flagZRemRangeByRank, Nuts.Model.DB.flagZPopMax,
    Nuts.Model.DB.flagZPopMin, apply_ite Nuts.KOut.vals, if_true, exit1]
  norm_cast
  simp only [Bool.or_assoc, Lean.Grind.beq_eq_decide_eq]
  simp

/-- **the split points of the B+ tree, regenerated.** `Nuts.Model.BPTree` splits a full leaf (`order` = 8
entries) 4 / 4 and a full inner node (8 keys) 4 / up / 3; both 4s are `getSplitIndex` — of `order` for a leaf,
of `order - 1` for an inner node — evaluated on the kernel regenerated from bptree.go, with `order` the
regenerated constant. -/
theorem bptree_split_points :
    lookup consts "order" = some 8 ∧ (NutsGen.K.getSplitIndex.run 8).vals = [4] ∧ (NutsGen.K.getSplitIndex.run 7).vals = [4] ∧
    Nuts.Model.BPTree.maxKeys = 7 := by
  decide +kernel

end NutsProofs.Facts
