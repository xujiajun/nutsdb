/-
  Property C19 — storage options do not change results.

  * RWMode, StartFileLoadingMode and SyncEnable: the model forgets them when the database is opened
    (`Opts.core`), so two option sets that agree on the index mode and the segment size produce the *same*
    model state at `Open`, hence the same result for every later call and the same files — `C19_io_options_irrelevant`
    and its corollary for any observation. What makes this a statement about nutsdb is the correspondence:
    suites `db-optskv` / `db-optsmixed` run every generated history under all combinations of the options
    and compare each run with this one model.
  * The two RAM index modes: `Open` rebuilds the same key/value index from the same files
    (`C22_ram_switch_same_index`), and — `C19_key_only_reads_what_key_value_keeps` — on well-formed files
    every index entry's hint addresses a record with the same bucket, key, value, timestamp, TTL and flag,
    so a key-only read (which re-reads the record from disk) returns what key+value mode keeps in memory.
-/
import Nuts.Model.DB
import NutsProofs.Lemmas.Assoc
import NutsProofs.Props.C22
import NutsProofs.Lemmas.Hints
namespace NutsProofs.C19
open Nuts Nuts.Model Nuts.Model.DB
open NutsProofs.Hints (WellFormed readAt_of_mem)

/-- **RWMode, StartFileLoadingMode and SyncEnable do not influence the model**: `Open` yields the same
state (indexes, files, write position — and the stored options themselves). -/
theorem C19_io_options_irrelevant (o1 o2 : Opts) (fs : List File) (hm : o1.mode = o2.mode) (hs : o1.seg = o2.seg) :
    openDB o1 fs = openDB o2 fs := by
  have hc : o1.core = o2.core := by simp [Opts.core, hm, hs]
  unfold openDB
  simp only [hc]

/-- … hence every later call, being a function of the state, returns the same under both option sets. -/
theorem C19_any_observation {α} (obs : State → α) (o1 o2 : Opts) (fs : List File) (hm : o1.mode = o2.mode) (hs : o1.seg = o2.seg) :
    obs (openDB o1 fs).1 = obs (openDB o2 fs).1 := by
  rw [C19_io_options_irrelevant o1 o2 fs hm hs]

example : openDB { mode := 1, rw := 0, startRw := 0, sync := false, seg := 64 } [] =
          openDB { mode := 1, rw := 1, startRw := 1, sync := true, seg := 64 } [] := by
  exact C19_io_options_irrelevant _ _ _ rfl rfl

/-! ### key-only mode reads what key+value mode keeps -/

/-- the API-visible part of a record (the commit marker `status` and the tx id are not exported) -/
def visible (r : Rec) : Bytes × Bytes × Bytes × Nat × Nat × Nat := (r.bucket, r.key, r.value, r.ts, r.ttl, r.flag)

/-- every index entry is a record of the files, at the position its hint names -/
def HintsPointToRecords (s : State) (fs : List File) : Prop :=
  ∀ b m k i, aget? s.kv b = some m → aget? m k = some i →
    ∃ f r, f ∈ fs ∧ f.fid = i.fid ∧ (i.pos, r) ∈ f.recs ∧ visible r = visible i.r

theorem replay_hints (rs : List (Rec × Nat × Nat)) (ids : List Nat) (s : State) (fs : List File)
    (hkv : ∀ x ∈ rs, x.1.ds = dsKV) (hsrc : ∀ x ∈ rs, x ∈ allRecs fs) (h0 : s.kv = []) :
    HintsPointToRecords (replay s rs ids).1 fs := by
  intro b m k i hb hk
  rw [Replay.replay_kvOnly rs ids s hkv] at hb
  simp only [h0] at hb
  obtain ⟨x, hx, rfl⟩ := MergeKV.kvOfLog_entries (Replay.visible rs ids) b m (k, i) hb (aget_mem m k i hk)
  obtain ⟨f, hf, hfid, hrec⟩ := (mem_allRecs_iff fs x).mp (hsrc x (List.mem_filter.mp hx).1)
  exact ⟨f, x.1, hf, hfid, hrec, rfl⟩

theorem open_hints (o : Opts) (fs : List File)
    (hkv : ∀ x ∈ allRecs (fileEnsure fs ((fs.map (·.fid)).foldl max 0)), x.1.ds = dsKV) :
    HintsPointToRecords (openDB o fs).1 (openDB o fs).1.files := by
  have h0 : ∀ (s : State) (l : List File), s.kv = [] → HintsPointToRecords s l := by
    intro s l hs b m k i hb _
    rw [hs] at hb; cases hb
  refine Replay.openDB_cases o fs (fun p => HintsPointToRecords p.1 p.1.files) (fun _ => h0 _ _ rfl) (fun _ => h0 _ _ rfl)
    fun _ => ?_
  rw [(Replay.replay_idxOnly _ _ _).files]
  exact replay_hints _ _ _ _ hkv (fun _ h => h) rfl

/-- **A key-only read returns what key+value mode keeps in memory.** After `Open` of well-formed
key/value files, in any mode, re-reading an index entry from its hint position (what
`HintKeyAndRAMIdxMode` does on every read) yields a record with the same bucket, key, value,
timestamp, TTL and flag as the entry kept in RAM (what `HintKeyValAndRAMIdxMode` returns). -/
theorem C19_key_only_reads_what_key_value_keeps (o : Opts) (fs : List File)
    (hkv : ∀ x ∈ allRecs (fileEnsure fs ((fs.map (·.fid)).foldl max 0)), x.1.ds = dsKV)
    (hwf : WellFormed (openDB o fs).1.files)
    (b : Bytes) (m : Assoc Idx) (k : Bytes) (i : Idx)
    (hb : aget? (openDB o fs).1.kv b = some m) (hk : aget? m k = some i) :
    ∃ r, readAt (openDB o fs).1.files o.seg i.fid i.pos = .ok (some r) ∧ visible r = visible i.r := by
  obtain ⟨f, r, hf, hfid, hrec, hv⟩ := open_hints o fs hkv b m k i hb hk
  exact ⟨r, by rw [← hfid]; exact readAt_of_mem _ _ f i.pos r hwf hf hrec, hv⟩

open NutsProofs.Reopen NutsProofs.Hints in
/-- **C19 (index mode, along every history).** Run any history of key/value write transactions and reopens
from the empty database, in any RAM index mode. In the state it reaches, every key/value read — `Get`,
`GetAll`, `RangeScan`, `PrefixScan`, `PrefixSearchScan`, for all arguments and clock values — returns what the
same state returns with the key+value index mode (`withMode0`), up to the status byte no API returns: fetching
a value through its hint from the data file gives the record that the key+value mode keeps in RAM. Unlike
`C19_key_only_reads_what_key_value_keeps` this is not only about the state right after `Open`: the invariants
`Reopen.LogInv` and `Hints.Packed` are carried through every commit, rotation and reopen. -/
theorem C19_key_only_answers_like_key_value (opt0 : Opts) (ops : List Op) (hok : OpsOk (openDB opt0 []).1 ops) :
    let s := ops.foldl stepOp (openDB opt0 []).1
    (∀ b k now, vis (DB.get s b k now) = vis (DB.get (withMode0 s) b k now)) ∧
    (∀ b now, visL (getAll s b now) = visL (getAll (withMode0 s) b now)) ∧
    (∀ b st en now, visL (rangeScan s b st en now) = visL (rangeScan (withMode0 s) b st en now)) ∧
    (∀ b pre off lim now mt, visL (prefixScan s b pre off lim now mt) = visL (prefixScan (withMode0 s) b pre off lim now mt)) := by
  intro s
  exact reads_mode_independent s (reached opt0 ops hok).1 (reached opt0 ops hok).2.1

/-- `Put(bucket a, key k, 16 bytes)` with transaction id `id` (60 bytes on disk) -/
def wPut (id k : Nat) : List Rec := [{ (mkRec [97] [k.toUInt8] (List.replicate 16 120) flagSet dsKV) with txid := id }]

open NutsProofs.Reopen in
/-- the theorem is about key-only databases that rotate: this history (key-only mode, 100-byte segments, a
reopen in the middle) meets its hypothesis, leaves three data files, and `Get` fetches the value through the
hint from the first file -/
theorem C19_witness_key_only_history :
    let ops := [Op.commit (wPut 1 1), .commit (wPut 2 2), .reopen { seg := 100, mode := 1 }, .commit (wPut 3 3)]
    let s := ops.foldl stepOp (openDB { seg := 100, mode := 1 } []).1
    OpsOk (openDB { seg := 100, mode := 1 } []).1 ops ∧ s.opt.mode = 1 ∧ s.files.map (·.fid) = [0, 1, 2] ∧
    (DB.get s [97] [1] 5).map (Option.map (·.value)) = .ok (some (List.replicate 16 120)) := by
  refine ⟨⟨⟨by simp [wPut], 1, ?_⟩, ⟨by simp [wPut], 2, ?_⟩, ⟨by simp [wPut], 3, ?_⟩, trivial⟩, by decide +kernel, by decide +kernel, by decide +kernel⟩
  all_goals (intro r hr; simp only [wPut, List.mem_singleton] at hr; subst hr; decide +kernel)

end NutsProofs.C19
