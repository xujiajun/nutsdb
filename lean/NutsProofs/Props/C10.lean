/-
  C10 — A process crash loses no committed transaction and exposes no partial one.

  Record level (here and `Lemmas/Replay.lean`: `Replay.uncommitted_suffix_invisible`): recovery replays exactly the records whose transaction has a record
  with the commit mark; records of a transaction without one are ignored wherever they lie, and a
  transaction's records all become visible exactly when its last record is in the log. Ids must be fresh:
  that was violated before the fix of D-TXID.

  History level (`Lemmas/Reopen*.lean`): along every history of key/value commits and reopens the state
  satisfies `Reopen.LogInv`, and from any such state a crash after any number of records of the next
  transaction short of the last one recovers exactly the state before that transaction; once the last record
  is written, exactly the state after it.
-/
import NutsProofs.Lemmas.Replay
import NutsProofs.Lemmas.ReopenObs
import NutsProofs.Lemmas.ReopenAll
namespace NutsProofs.C10
open Nuts Nuts.Model Nuts.Model.DB

abbrev LogRec := Replay.LogRec

/-- **C10 (no partial transaction), record level.** A log followed by any records of a transaction that
has no commit marker anywhere (a crash before its last write, a failed commit) recovers exactly as the log
alone: same committed ids, same replay — provided the transaction's id is fresh. -/
theorem C10_uncommitted_suffix_invisible (s : State) (log extra : List LogRec)
    (hst : ∀ x ∈ extra, x.1.status = 0)
    (hfresh : ∀ x ∈ extra, ∀ y ∈ log, y.1.txid ≠ x.1.txid) :
    committedIds (log ++ extra) = committedIds log ∧
    replay s (log ++ extra) (committedIds (log ++ extra)) = replay s log (committedIds log) :=
  Replay.uncommitted_suffix_invisible s log extra hst hfresh

/-- **C10 (no committed transaction lost), record level.** Once the last record — the one carrying the
commit marker — is in the log, every record of the transaction is visible to recovery. -/
theorem C10_committed_all_visible (log : List LogRec) (recs : List LogRec) (id : Nat)
    (hid : ∀ x ∈ recs, x.1.txid = id) (hlast : ∃ x ∈ recs, x.1.status = 1) :
    ∀ x ∈ recs, x ∈ Replay.visible (log ++ recs) (committedIds (log ++ recs)) := by
  intro x hx
  obtain ⟨l, hl, hls⟩ := hlast
  refine List.mem_filter.mpr ⟨by simp [hx], ?_⟩
  simp only [List.contains_eq_mem, decide_eq_true_eq]
  exact List.mem_map.mpr ⟨l, List.mem_filter.mpr ⟨by simp [hl], by simp [hls]⟩, by rw [hid l hl, hid x hx]⟩

/-- Witness of the fixed finding D-TXID: with a *shared* id the uncommitted record IS visible, which is why
freshness is a hypothesis (and why every transaction now gets a distinct id). -/
theorem C10_witness_shared_id :
    let committed : LogRec := ({ (mkRec [97] [107] [1] flagSet dsKV) with txid := 7, status := 1 }, 0, 0)
    let residue : LogRec := ({ (mkRec [97] [108] [2] flagSet dsKV) with txid := 7, status := 0 }, 0, 46)
    residue ∈ Replay.visible [committed, residue] (committedIds [committed, residue]) := by
  decide

/-- the two structural facts of `Tx.Commit` (regenerated from the source on every run) that make the
record-level argument apply to the code: the commit marker is set on the last record only, before it is
written; the id enters `committedTxIds` only after that write. -/
theorem C10_commit_marker_facts :
    Facts.items "status" = [("status", "i == lastIndex", "entry.Meta.status = Committed")] ∧
    (NutsGen.F.commitLoop.findIdx? (·.1 == "write")).getD 99 < (NutsGen.F.commitLoop.findIdx? (·.1 == "committedIds")).getD 0 :=
  Replay.commit_marker_facts

open NutsProofs.Reopen in
/-- **C10 (history level: crash before the commit mark).** After any history of key/value transactions and
reopens, a transaction with a fresh id starts to commit and the process dies when `j` of its records — any
number short of the last — have reached the files (rotations included). `Open` on what is left succeeds and
rebuilds exactly the index and the committed ids the database had before the transaction; in the key+value
mode every read then returns what it returned before the transaction began. -/
theorem C10_crash_before_marker_recovers_prestate (opt0 : Opts) (ops : List Op) (hok : OpsOk (openDB opt0 []).1 ops)
    (t : List Rec) (tid : Nat) (j : Nat)
    (ht : ∀ r ∈ t, r.ds = dsKV ∧ r.txid = tid ∧ r.status = 0)
    (hfresh : ∀ x ∈ allRecs (ops.foldl stepOp (openDB opt0 []).1).files, x.1.txid ≠ tid)
    (opt : Opts) :
    let s := ops.foldl stepOp (openDB opt0 []).1
    let s' := (openDB opt (crashAfter s t j).files).1
    (openDB opt (crashAfter s t j).files).2 = .ok () ∧ s'.kv = normKV s.kv ∧ (∀ id, id ∈ s'.committed ↔ id ∈ s.committed) ∧
    (s.opt.mode = 0 → opt.mode = 0 →
      (∀ b k now, vis (DB.get s' b k now) = vis (DB.get s b k now)) ∧
      (∀ b now, visL (getAll s' b now) = visL (getAll s b now)) ∧
      (∀ b st en now, visL (rangeScan s' b st en now) = visL (rangeScan s b st en now)) ∧
      (∀ b pre off lim now mt, visL (prefixScan s' b pre off lim now mt) = visL (prefixScan s b pre off lim now mt))) := by
  intro s s'
  have hinv : LogInv s := logInv_reached opt0 ops hok
  obtain ⟨h1, h2, h3⟩ := crash_in_commit_recovers_prestate s hinv t tid j ht hfresh opt
  refine ⟨h1, h2, h3, ?_⟩
  intro hm hm'
  have hopt' : s'.opt.mode = 0 := by
    have : s'.opt = opt.core := Replay.openDB_opt opt _
    rw [this]; exact hm'
  have hr : Rebuilt s s' := Rebuilt.of_mode0 h2 hm hopt' h3
  exact ⟨fun b k now => get_rebuilt hr b k now, fun b now => getAll_rebuilt hr b now,
    fun b st en now => rangeScan_rebuilt hr b st en now,
    fun b pre off lim now mt => prefixScan_rebuilt hr b pre off lim now mt⟩

open NutsProofs.Reopen in
/-- **C10 (history level: crash after the commit mark).** Once `Commit` has written the last record, the
files are those of the state after the transaction, and `Open` rebuilds that state: nothing committed is
lost. (With `C08_reopen_preserves_kv_reads` for what the reads return.) -/
theorem C10_crash_after_marker_recovers_poststate (opt0 : Opts) (ops : List Op) (t : List Rec)
    (hok : OpsOk (openDB opt0 []).1 (ops ++ [Op.commit t])) (opt : Opts) :
    let s := (ops ++ [Op.commit t]).foldl stepOp (openDB opt0 []).1
    (openDB opt s.files).2 = .ok () ∧ (openDB opt s.files).1.kv = normKV s.kv ∧
    (∀ id, id ∈ (openDB opt s.files).1.committed ↔ id ∈ s.committed) := by
  intro s
  have hinv : LogInv s := logInv_reached opt0 _ hok
  obtain ⟨h1, h2, _, h4⟩ := open_rebuilds s hinv opt
  exact ⟨h1, h2, h4⟩

open NutsProofs.Reopen NutsProofs.ReopenAll in
/-- **C10 (history level, all structures, key+value mode).** After any history of successfully committed
transactions over key/value, list, set and sorted-set records (with reopens), a transaction with a fresh id
starts to commit and the process dies when `j` of its records — any number short of the last, of any of the
four structures — have reached the files. `Open` on what is left succeeds and rebuilds the key/value index,
the lists, the sets, the sorted sets and the committed ids of the state before the transaction: nothing of
the partial transaction is visible in any structure, nothing committed is lost. -/
theorem C10_crash_before_marker_all_structures (opt0 : Opts) (ops : List OpA) (hok : OpsOkA (openDB opt0 []).1 ops)
    (t : List Rec) (tid : Nat) (j : Nat) (ht : ∀ r ∈ t, r.txid = tid ∧ r.status = 0)
    (hfresh : ∀ x ∈ allRecs (ops.foldl stepA (openDB opt0 []).1).files, x.1.txid ≠ tid)
    (opt : Opts) (hm : opt.mode = 0) :
    let s := ops.foldl stepA (openDB opt0 []).1
    let s' := (openDB opt (crashAfterA s t j).files).1
    (openDB opt (crashAfterA s t j).files).2 = .ok () ∧ s'.kv = normKV s.kv ∧
    s'.lists = s.lists ∧ s'.sets = s.sets ∧ s'.zsets = s.zsets ∧
    (∀ id, id ∈ s'.committed ↔ id ∈ s.committed) := by
  intro s s'
  have hinv : AllInv s := allInv_reached opt0 ops hok
  obtain ⟨h1, h2, h3, h4⟩ := crash_in_commit_any s hinv t tid j ht hfresh opt hm
  exact ⟨h1, h2, congrArg SV.lists h3, congrArg SV.sets h3, congrArg SV.zsets h3, h4⟩

end NutsProofs.C10
