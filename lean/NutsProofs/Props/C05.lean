/-
  C05 — Lists behave like Redis lists.
-/
import Nuts.Model.ListDS
import Nuts.Spec.RList
import NutsProofs.Lemmas.LRem
import NutsProofs.Lemmas.Kernels
import NutsProofs.Lemmas.Isolation
import NutsProofs.Pins.ListDS
import NutsProofs.Pins.TxApi
import NutsProofs.Pins.TxApiList
namespace NutsProofs.C05
open Nuts Nuts.Model Nuts.Spec NutsProofs.Kernels

/-! ### `LRange`: the regenerated kernel computes the Redis indexes -/

theorem lrangeL_eq (l : List Bytes) (s e : Int) (hn : (l.length : Int) < 4611686018427387904)
    (hs : inRange64 s) (he : inRange64 e) :
    ListDS.lrangeL l false s e =
      if RList.startIdx l.length s > RList.stopIdx l.length e then .err else .ok (RList.lrange l s e) := by
  have h1 := startIdx_nonneg l.length s
  have h2 := stopIdx_lt l.length e
  unfold ListDS.lrangeL RList.lrange
  rw [LRange_run, lrStart_eq _ s hn hs, lrStop_eq _ e hn he, lrOut]
  split
  · rfl
  · rw [wrap64_of_inRange (by unfold inRange64; omega)]
    simp only [ListDS.sliceOf]
    rw [if_pos (by omega), show ∀ a b : Int, a + 1 - b = a - b + 1 by omega]

/-- C05 / LRange: for every list shorter than 2^62 and every pair of machine integers, `LRange`
returns the Redis range, or an error when that range is empty; it never panics. -/
theorem lrange_spec (l : List Bytes) (s e : Int) (hn : (l.length : Int) < 4611686018427387904)
    (hs : inRange64 s) (he : inRange64 e) :
    RList.Acceptable (RList.lrange l s e) (RList.lrange l s e).isEmpty (ListDS.lrangeL l false s e) := by
  rw [lrangeL_eq l s e hn hs he]
  split
  · simp only [RList.Acceptable, RList.lrange, if_pos ‹_›, List.isEmpty_nil]
  · rfl

theorem lrange_eq_nil_iff (l : List Bytes) (s e : Int) :
    RList.lrange l s e = [] ↔ RList.startIdx l.length s > RList.stopIdx l.length e := by
  have h1 := startIdx_nonneg l.length s
  have h2 := stopIdx_lt l.length e
  unfold RList.lrange
  split
  · exact ⟨fun _ => ‹_›, fun _ => rfl⟩
  · refine ⟨fun hnil => ?_, fun h => absurd h ‹_›⟩
    have := congrArg List.length hnil
    simp only [List.length_take, List.length_drop, List.length_nil] at this
    omega

/-- the two witnesses of the fixed finding D-LRANGE (a panic) -/
theorem lrange_neg_zero_fixed : ListDS.lrangeL [[1]] false (-1) 0 = .ok [[1]] := by decide

theorem lrange_start_below_fixed : ListDS.lrangeL [[1], [2]] false (-5) 1 = .ok [[1], [2]] := by decide

theorem lrangeL_missing (l : List Bytes) (s e : Int) : ListDS.lrangeL l true s e = .err := by
  unfold ListDS.lrangeL NutsGen.K.list_LRange.run
  rw [if_pos rfl]

theorem lrange_missing (s e : Int) : ListDS.lrangeL [] true s e = .err := lrangeL_missing [] s e

/-! ### the operations, on the map of lists -/

/-- the list a key holds (a missing key is the empty list, as in Redis) -/
def listOf (s : ListDS.St) (k : Bytes) : List Bytes := (ListDS.get? s k).getD []

/-- **C05 / RPush**: appends the values in order; returns the new length; other keys untouched -/
theorem rpush_spec (s : ListDS.St) (k : Bytes) (vs : List Bytes) (hv : vs ≠ []) :
    listOf (ListDS.rpush s k vs).1 k = listOf s k ++ vs ∧
    (ListDS.rpush s k vs).2 = .ok (listOf s k ++ vs).length ∧
    ∀ k', k' ≠ k → ListDS.get? (ListDS.rpush s k vs).1 k' = ListDS.get? s k' := by
  have he : vs.isEmpty = false := by cases vs with | nil => exact absurd rfl hv | cons _ _ => rfl
  unfold ListDS.rpush listOf
  simp only [he, Bool.false_eq_true, if_false, ListDS.size, listGet_eq, listPut_eq, aget_aput_self, Option.getD_some]
  exact ⟨trivial, trivial, fun k' hk' => aget_aput_other s k k' _ hk'⟩

/-- **C05 / LPush**: each value in turn goes to the head (so the last one pushed is first) -/
theorem lpush_spec (s : ListDS.St) (k : Bytes) (vs : List Bytes) :
    listOf (ListDS.lpush s k vs).1 k = vs.reverse ++ listOf s k ∧
    (ListDS.lpush s k vs).2 = .ok (vs.reverse ++ listOf s k).length ∧
    ∀ k', k' ≠ k → ListDS.get? (ListDS.lpush s k vs).1 k' = ListDS.get? s k' := by
  unfold ListDS.lpush listOf
  simp only [listGet_eq, listPut_eq, aget_aput_self, Option.getD_some]
  exact ⟨trivial, trivial, fun k' hk' => aget_aput_other s k k' _ hk'⟩

/-- **C05 / LPop**: the head, removed; an error on an empty or missing list, which stays as it is -/
theorem lpop_spec (s : ListDS.St) (k : Bytes) :
    match listOf s k with
    | [] => ListDS.lpop s k = (s, .err)
    | x :: xs => (ListDS.lpop s k).2 = .ok x ∧ listOf (ListDS.lpop s k).1 k = xs ∧
        ∀ k', k' ≠ k → ListDS.get? (ListDS.lpop s k).1 k' = ListDS.get? s k' := by
  unfold listOf ListDS.lpop
  cases hg : ListDS.get? s k with
  | none => rfl
  | some l =>
    cases l with
    | nil => rfl
    | cons x xs =>
      simp only [Option.getD_some, listGet_eq, listPut_eq, aget_aput_self]
      exact ⟨trivial, trivial, fun k' hk' => aget_aput_other s k k' _ hk'⟩

/-- **C05 / RPop**: the last element, removed; an error on an empty or missing list -/
theorem rpop_spec (s : ListDS.St) (k : Bytes) :
    match (listOf s k).getLast? with
    | none => ListDS.rpop s k = (s, .err)
    | some x => (ListDS.rpop s k).2 = .ok x ∧ listOf (ListDS.rpop s k).1 k = (listOf s k).dropLast ∧
        ∀ k', k' ≠ k → ListDS.get? (ListDS.rpop s k).1 k' = ListDS.get? s k' := by
  unfold listOf ListDS.rpop
  cases hg : ListDS.get? s k with
  | none => rfl
  | some l =>
    simp only [Option.getD_some]
    cases hl : l.getLast? with
    | none => rfl
    | some x =>
      simp only [listGet_eq, listPut_eq, aget_aput_self, Option.getD_some]
      exact ⟨trivial, trivial, fun k' hk' => aget_aput_other s k k' _ hk'⟩

/-- **C05 / LPeek, RPeek, LSize**: head, last element, length; errors exactly on empty / missing lists
(`LSize` of a key that holds an empty list is 0) -/
theorem peek_size_spec (s : ListDS.St) (k : Bytes) :
    (ListDS.lpeek s k = match listOf s k with | [] => .err | x :: _ => .ok x) ∧
    (ListDS.rpeek s k = match (listOf s k).getLast? with | none => .err | some x => .ok x) ∧
    (ListDS.size s k = match ListDS.get? s k with | none => .err | some l => .ok l.length) := by
  unfold listOf ListDS.lpeek ListDS.rpeek ListDS.size
  cases hg : ListDS.get? s k with
  | none => exact ⟨rfl, rfl, rfl⟩
  | some l => cases l <;> exact ⟨rfl, rfl, rfl⟩

/-- **C05 / LSet** (the regenerated bounds test): an index in `0 … size-1` of an existing key stores the
value there; every other index — negative ones included, which Redis would count from the tail — and a
missing key are reported as an error and change nothing; never a panic -/
theorem lset_spec (s : ListDS.St) (k : Bytes) (idx : Int) (v : Bytes) :
    if (ListDS.get? s k).isSome ∧ 0 ≤ idx ∧ idx < (listOf s k).length then
      (ListDS.lset s k idx v).2 = .ok () ∧ listOf (ListDS.lset s k idx v).1 k = (listOf s k).set idx.toNat v ∧
      RList.lset (listOf s k) idx v = some ((listOf s k).set idx.toNat v)
    else ListDS.lset s k idx v = (s, .err) := by
  unfold ListDS.lset listOf NutsGen.K.list_LSet.run
  cases hg : ListDS.get? s k with
  | none => simp
  | some l =>
    simp only [Option.isSome_some, Option.getD_some, true_and, if_true]
    by_cases h1 : idx ≥ (l.length : Int)
    · have : ¬ (0 ≤ idx ∧ idx < (l.length : Int)) := by omega
      simp [h1, this]
    · by_cases h2 : idx < 0
      · have : ¬ (0 ≤ idx ∧ idx < (l.length : Int)) := by omega
        simp [h1, h2, this]
      · have h3 : 0 ≤ idx ∧ idx < (l.length : Int) := by omega
        simp only [h1, h2, if_false, h3, and_self, if_true, listGet_eq, listPut_eq, aget_aput_self, Option.getD_some, true_and]
        unfold RList.lset RList.norm
        simp [h2, h3]

/-- **C05 / LTrim**: keeps exactly the Redis range; an empty range or a missing key is an error that
changes nothing; never a panic (list shorter than 2^62, machine-integer bounds) -/
theorem ltrim_spec (s : ListDS.St) (k : Bytes) (st en : Int) (hs : inRange64 st) (he : inRange64 en)
    (hn : ((listOf s k).length : Int) < 4611686018427387904) :
    match ListDS.get? s k with
    | none => ListDS.ltrim s k st en = (s, .err)
    | some l =>
      if RList.lrange l st en = [] then ListDS.ltrim s k st en = (s, .err)
      else (ListDS.ltrim s k st en).2 = .ok () ∧ listOf (ListDS.ltrim s k st en).1 k = RList.lrange l st en := by
  unfold ListDS.ltrim
  cases hg : ListDS.get? s k with
  | none => rfl
  | some l =>
    have hl : (l.length : Int) < 4611686018427387904 := by unfold listOf at hn; rw [hg] at hn; exact hn
    simp only [lrangeL_eq l st en hl hs he, lrange_eq_nil_iff]
    split
    · rfl
    · exact ⟨rfl, by simp only [listOf, listGet_eq, listPut_eq, aget_aput_self, Option.getD_some]⟩

/-- **C05 / LRem**: Redis `LREM` — the first `count` occurrences from the head (`count > 0`), from the tail
(`count < 0`), or all of them (`count = 0`) are removed, the number removed is returned and the remaining
elements keep their order; a count above the size, and a missing key, are errors that change nothing; never a
panic (every machine integer as count — `MinInt64`, whose negation overflows, included: the fixed finding
D-LREM-MININT — and lists shorter than 2^62) -/
theorem lrem_spec (s : ListDS.St) (k : Bytes) (count : Int) (v : Bytes)
    (hn : ((listOf s k).length : Int) < 4611686018427387904) :
    match ListDS.get? s k with
    | none => ListDS.lrem s k count v = (s, .err)
    | some l =>
      if count > (l.length : Int) then ListDS.lrem s k count v = (s, .err)
      else (ListDS.lrem s k count v).2 = .ok (RList.lrem l count v).2 ∧
           listOf (ListDS.lrem s k count v).1 k = (RList.lrem l count v).1 ∧
           ∀ k', k' ≠ k → ListDS.get? (ListDS.lrem s k count v).1 k' = ListDS.get? s k' := by
  unfold ListDS.lrem
  cases hg : ListDS.get? s k with
  | none => rfl
  | some l =>
    have hl : (l.length : Int) < 4611686018427387904 := by unfold listOf at hn; rw [hg] at hn; exact hn
    simp only []
    rw [LRem.lremL_spec l count v hl]
    by_cases hbig : count > (l.length : Int)
    · simp [hbig]
    · simp only [hbig, if_false, listOf, listGet_eq, listPut_eq, aget_aput_self, Option.getD_some, true_and]
      exact fun k' hk' => aget_aput_other s k k' _ hk'

/-- the count whose negation overflows: five elements, all of them removed from the tail side, no panic -/
theorem lrem_minint_fixed :
    ListDS.lremL [[1], [2], [1], [1], [3]] (-9223372036854775808) [1] = .ok ([[2], [3]], 3) := by decide

/-! ### lists through transactions: every history -/

open Nuts.Model.DB NutsProofs.ReopenAll NutsProofs.Isolation in
/-- **C05, lists through transactions, every history.** After any history of successfully committed
transactions over all four structures, with reopens (key+value mode), the list structure of bucket `b` is what
the committed list records of that bucket produce, applied in commit order to the empty structure by the
operations of `ds/list` — each of which is the Redis operation by the theorems above (`rpush_spec`,
`lpush_spec`, `lpop_spec`, `rpop_spec`, `lrem_spec`, `lset_spec`, `ltrim_spec`) — whatever other buckets and
structures did in between. -/
theorem C05_lists_after_every_history (opt0 : Opts) (ops : List OpA) (hok : OpsOkA (openDB opt0 []).1 ops) (b : Bytes) :
    let s := ops.foldl stepA (openDB opt0 []).1
    (aget? s.lists b).getD [] =
      ((((allRecs s.files).map (·.1)).filter fun r => r.bucket == b).filter fun r => r.ds == dsList).foldl
        (fun l r => (applyList l r).1) [] := by
  intro s
  exact (structures_of_own_records s (allInv_reached opt0 ops hok) b).1

theorem listOf_frame {s s' : ListDS.St} {k : Bytes} (f : List Bytes → List Bytes) (h1 : listOf s' k = f (listOf s k))
    (h2 : ∀ k', k' ≠ k → ListDS.get? s' k' = ListDS.get? s k') (k' : Bytes) :
    listOf s' k' = if k' = k then f (listOf s k') else listOf s k' := by
  split
  · rename_i h; subst h; exact h1
  · rename_i h; unfold listOf; rw [h2 k' h]

theorem listOf_lpop (l : ListDS.St) (k k' : Bytes) :
    listOf (ListDS.lpop l k).1 k' = if k' = k then (listOf l k').tail else listOf l k' := by
  have hs := lpop_spec l k
  cases hl : listOf l k with
  | nil =>
    rw [hl] at hs
    rw [show ListDS.lpop l k = (l, .err) from hs]
    split
    · rename_i h; subst h; rw [hl]; rfl
    · rfl
  | cons x xs =>
    rw [hl] at hs
    exact listOf_frame List.tail (by rw [hl]; exact hs.2.1) hs.2.2 k'

theorem listOf_rpop (l : ListDS.St) (k k' : Bytes) :
    listOf (ListDS.rpop l k).1 k' = if k' = k then (listOf l k').dropLast else listOf l k' := by
  have hs := rpop_spec l k
  cases hl : (listOf l k).getLast? with
  | none =>
    rw [hl] at hs
    rw [show ListDS.rpop l k = (l, .err) from hs]
    split
    · rename_i h; subst h; rw [List.getLast?_eq_none_iff.mp hl]; rfl
    · rfl
  | some x =>
    rw [hl] at hs
    exact listOf_frame List.dropLast hs.2.1 hs.2.2 k'

open Nuts.Model.DB in
/-- a committed push or pop record is the Redis `LPUSH` / `RPUSH` / `LPOP` / `RPOP` of one element on its key
and leaves every other key of the bucket alone -/
theorem C05_push_pop_record_is_redis (l : ListDS.St) (r : Rec) (k' : Bytes)
    (hf : r.flag = flagLPush ∨ r.flag = flagRPush ∨ r.flag = flagLPop ∨ r.flag = flagRPop) :
    listOf (applyList l r).1 k' =
      if k' = r.key then
        (if r.flag = flagLPush then r.value :: listOf l k'
         else if r.flag = flagRPush then listOf l k' ++ [r.value]
         else if r.flag = flagLPop then (listOf l k').tail
         else (listOf l k').dropLast)
      else listOf l k' := by
  unfold applyList
  -- the flag settles the branch of `applyList` and of the statement (comparisons of flag constants: `decide`)
  rcases hf with hf | hf | hf | hf
  · simp (decide := true) only [hf]
    exact listOf_frame (r.value :: ·) (lpush_spec l r.key [r.value]).1 (lpush_spec l r.key [r.value]).2.2 k'
  · simp (decide := true) only [hf]
    exact listOf_frame (· ++ [r.value]) (rpush_spec l r.key [r.value] (List.cons_ne_nil _ _)).1
      (rpush_spec l r.key [r.value] (List.cons_ne_nil _ _)).2.2 k'
  · simp (decide := true) only [hf]
    exact listOf_lpop l r.key k'
  · simp (decide := true) only [hf]
    exact listOf_rpop l r.key k'

/-- **regenerated tie.** On this run, the list calls of the transactional API (validation against the committed list, the key / value encoding of `LSet`, `LRem`, `LTrim`, the flag of each queued record) and `tx.put` are the source lines `Nuts.Model.Tx` was written from (`NutsProofs.Facts.expectedTxApiCore`, `expectedTxApiList`). -/
theorem C05_tx_api_regenerated :
    NutsProofs.Facts.txApiOfCore = NutsProofs.Facts.expectedTxApiCore ∧
    NutsProofs.Facts.txApiOfList = NutsProofs.Facts.expectedTxApiList :=
  ⟨NutsProofs.Facts.tx_api_core_ok, NutsProofs.Facts.tx_api_list_ok⟩

/-- **regenerated tie.** every condition, loop and call of ds/list/list.go is, on this run, the source `Nuts.Model.ListDS` was written from (`NutsProofs.Facts.expectedListStmts`); the index arithmetic of `LRange` / `LSet` / `Ltrim` is additionally regenerated as kernels. -/
theorem C05_list_statements_regenerated : NutsGen.F.listStmts = NutsProofs.Facts.expectedListStmts :=
  NutsProofs.Facts.list_stmts_ok

end NutsProofs.C05
