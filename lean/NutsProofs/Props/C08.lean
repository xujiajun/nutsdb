/-
  C08 — A clean reopen preserves every observable result: after every history of key/value commits and reopens,
  in either RAM index mode, `Open` with the options in force returns the same files and key/value reads
  (`C08_reopen_preserves_kv_reads`); with lists, sets and sorted sets, in key+value mode, the same structures and
  committed ids (`C08_reopen_preserves_all_structures`). Witness histories by kernel evaluation; the appliers and constants the
  model was written from are regenerated (`C08_appliers_regenerated`, `C08_constants_regenerated`).
-/
import Nuts.Model.Tx
import NutsProofs.Props.C10
import NutsProofs.Lemmas.ReopenObs
import NutsProofs.Lemmas.ReopenAll
import NutsProofs.Pins.Appliers
import NutsProofs.Facts
namespace NutsProofs.C08
open Nuts Nuts.Model Nuts.Model.DB

/-- **C08 (Open does not modify the log).** The files after a successful `Open` are the files before
it, plus at most the (empty) active file that `Open` creates. -/
theorem C08_open_preserves_files (opt : Opts) (fs : List File) :
    (openDB opt fs).1.files = fileEnsure fs ((fs.map (·.fid)).foldl max 0) := by
  obtain ⟨_, h⟩ := Replay.openDB_base opt fs; exact h.files

/-! ### a clean reopen, for every key/value history

The invariant `Reopen.LogInv` holds in the empty database, every successful key/value `Commit` keeps it
(rotations included) and so does every `Open`; and `Open` on the files of a state that has it rebuilds that
state's index, hints included. -/

open NutsProofs.Reopen in
/-- **C08 (key/value histories).** Take any history of key/value write transactions (any number of records
each, puts and deletes, with or without TTL, any segment size — so any number of rotations) and reopens with
any options in between, starting from the empty database. Then a final `Open` with the options in force
succeeds, leaves the files as they are, and every key/value read returns what it returned before the reopen:
`Get`, `GetAll`, `RangeScan`, `PrefixScan` and `PrefixSearchScan`, for every bucket, key, range, prefix,
offset, limit, match predicate and clock value — in both RAM index modes. (Records are compared without the
status byte, which no API returns.) -/
theorem C08_reopen_preserves_kv_reads (opt0 : Opts) (ops : List Op) (hok : OpsOk (openDB opt0 []).1 ops)
    (opt : Opts) (hopt : opt.core = (ops.foldl stepOp (openDB opt0 []).1).opt) :
    let s := ops.foldl stepOp (openDB opt0 []).1
    let s' := (openDB opt s.files).1
    (openDB opt s.files).2 = .ok () ∧ s'.files = s.files ∧
    (∀ b k now, vis (DB.get s' b k now) = vis (DB.get s b k now)) ∧
    (∀ b now, visL (getAll s' b now) = visL (getAll s b now)) ∧
    (∀ b st en now, visL (rangeScan s' b st en now) = visL (rangeScan s b st en now)) ∧
    (∀ b pre off lim now mt, visL (prefixScan s' b pre off lim now mt) = visL (prefixScan s b pre off lim now mt)) := by
  intro s s'
  have hinv : LogInv s := logInv_reached opt0 ops hok
  obtain ⟨h1, h2, h3, h4⟩ := open_rebuilds s hinv opt
  have hr : Rebuilt s s' := Rebuilt.of_files h2 h3 ((Replay.openDB_opt opt _).trans hopt) h4
  exact ⟨h1, h3, fun b k now => get_rebuilt hr b k now, fun b now => getAll_rebuilt hr b now,
    fun b st en now => rangeScan_rebuilt hr b st en now,
    fun b pre off lim now mt => prefixScan_rebuilt hr b pre off lim now mt⟩

/-- a one-record transaction: `Put(bucket a, key k, 16 bytes)` with transaction id `id` (60 bytes on disk) -/
def wTx (id k : Nat) : List Rec := [{ (mkRec [97] [k.toUInt8] (List.replicate 16 120) flagSet dsKV) with txid := id }]

open NutsProofs.Reopen in
/-- the hypotheses are met by a history that rotates: transactions of 60-byte records over 100-byte
segments (every commit after the first rotates) and a reopen in the middle -/
theorem C08_witness_history :
    OpsOk (openDB { seg := 100 } []).1 [.commit (wTx 1 1), .commit (wTx 2 2), .reopen { seg := 100 }, .commit (wTx 3 1)] := by
  refine ⟨⟨by simp [wTx], 1, ?_⟩, ⟨by simp [wTx], 2, ?_⟩, ⟨by simp [wTx], 3, ?_⟩, trivial⟩
  all_goals (intro r hr; simp only [wTx, List.mem_singleton] at hr; subst hr; decide +kernel)

/-- … and it does rotate: three data files at the end -/
theorem C08_witness_rotates :
    (([Reopen.Op.commit (wTx 1 1), .commit (wTx 2 2), .reopen { seg := 100 }, .commit (wTx 3 1)].foldl Reopen.stepOp
      (openDB { seg := 100 } []).1).files.map (·.fid)) = [0, 1, 2] := by
  decide +kernel

/-! ### a clean reopen, for every structure

`ReopenAll.AllInv` extends the invariant to logs with list, set and sorted-set records: besides the key/value
part, the lists, sets and sorted sets of the state are the fold of the appliers over the log, and no
application along the log panics. `Commit` applies a transaction's structure records after its write loop,
`Open` applies them while it replays the log; the appliers read and write nothing but the structure maps
(`applyOther_eq`), the status byte does not matter to them, and on sorted-set keys of the form `key|score` the
applier of `Commit` and the applier of `Open` agree (`stepSV_flag`) — so both build the same thing. -/

open NutsProofs.Reopen NutsProofs.ReopenAll in
/-- **C08 (all structures, key+value mode).** Take any history of write transactions with records of any of
the four structures — puts, deletes, pushes, pops, `LRem`, `LSet`, `LTrim`, `SAdd`, `SRem`, `ZAdd`, `ZRem`,
`ZRemRangeByRank`, `ZPopMax`, `ZPopMin`, in any mix, any number per transaction, over any buckets, with any
segment size — each of which committed successfully, and reopens in between. Then `Open` (key+value mode) on
the final files succeeds, leaves the files as they are, and rebuilds exactly the lists, the sets and the
sorted sets the database held, the key/value index up to the status byte of the cached records, and the
same committed transaction ids; every read of a list, set or sorted set is a function of those maps alone, so
it returns what it returned before. (Sorted-set keys must have the form `key|score`: the API writes no
other; for others the two appliers differ.) -/
theorem C08_reopen_preserves_all_structures (opt0 : Opts) (ops : List OpA) (hok : OpsOkA (openDB opt0 []).1 ops)
    (opt : Opts) (hm : opt.mode = 0) :
    let s := ops.foldl stepA (openDB opt0 []).1
    let s' := (openDB opt s.files).1
    (openDB opt s.files).2 = .ok () ∧ s'.files = s.files ∧
    s'.lists = s.lists ∧ s'.sets = s.sets ∧ s'.zsets = s.zsets ∧ s'.kv = normKV s.kv ∧
    (∀ id, id ∈ s'.committed ↔ id ∈ s.committed) := by
  intro s s'
  have hinv : AllInv s := allInv_reached opt0 ops hok
  obtain ⟨h1, h2, h3, h4, h5⟩ := open_rebuilds_all s hinv opt hm
  exact ⟨h1, h4, congrArg SV.lists h3, congrArg SV.sets h3, congrArg SV.zsets h3, h2, h5⟩

def wRec (id : Nat) (b k v : Bytes) (flag ds : Nat) : Rec := { (mkRec b k v flag ds) with txid := id }

open NutsProofs.ReopenAll in
/-- the hypotheses are met by a history that uses all four structures, rotates (100-byte segments) and
reopens in the middle: a put, two pushes and a pop, two set insertions and a removal, a sorted-set insertion -/
theorem C08_witness_all_structures :
    let ops := [OpA.commit [wRec 1 [97] [107] [120] flagSet dsKV, wRec 1 [108] [113] [49] flagRPush dsList],
                .commit [wRec 2 [108] [113] [50] flagRPush dsList, wRec 2 [115] [116] [121] flagSet dsSet],
                .reopen { seg := 100 },
                .commit [wRec 3 [108] [113] [] flagLPop dsList, wRec 3 [115] [116] [122] flagSet dsSet,
                         wRec 3 [115] [116] [121] flagDelete dsSet],
                .commit [{ (wRec 4 [122] [109, 124, 49] [118] flagZAdd dsZSet) with score := 1 }]]
    OpsOkA (openDB { seg := 100 } []).1 ops ∧
    ((ops.foldl stepA (openDB { seg := 100 } []).1).files.map (·.fid)).length ≥ 3 ∧
    (ops.foldl stepA (openDB { seg := 100 } []).1).lists = [([108], [([113], [[50]])])] := by
  intro ops
  refine ⟨⟨⟨by simp, 1, ?_⟩, by decide +kernel, ⟨by simp, 2, ?_⟩, by decide +kernel, rfl,
    ⟨by simp, 3, ?_⟩, by decide +kernel, ⟨by simp, 4, ?_⟩, by decide +kernel, trivial⟩, by decide +kernel, by decide +kernel⟩
  all_goals
    intro r hr
    simp only [List.mem_cons, List.mem_nil_iff, or_false] at hr
    rcases hr with rfl | rfl | rfl <;>
      first
        | exact ⟨by decide +kernel, rfl, fun hd => absurd hd (by decide +kernel)⟩
        | exact ⟨by decide +kernel, rfl, fun _ _ => ⟨[109], [49], by decide +kernel⟩⟩

/-- **regenerated tie of recovery and of the appliers.** The functions that apply a record to an index — at
`Commit` (`tx.build…Idx`) and at `Open` (`db.build…Idx`): flag dispatch, argument parsing, structure calls — the
rotation, and the scan of the data files at `Open` are on this run, line for line, the source the model's
`applyKV` / `applyList` / `applySet` / `applyZSet` / `rotate` / `replay` / `openDB` were written from
(`NutsProofs.Facts.expectedApplierStmts`). A replay that differs from the commit-time application
(the usual way to break "reopen preserves every result") changes these lines. -/
theorem C08_appliers_regenerated : NutsGen.F.applierStmts = NutsProofs.Facts.expectedApplierStmts :=
  NutsProofs.Facts.appliers_ok

/-- **regenerated constants.** The record flags, structure codes, status values, separators and the header size
the model replays with are the constants of the source on this run. -/
theorem C08_constants_regenerated :
    NutsProofs.Facts.lookup NutsGen.F.consts "DataZPopMinFlag" = some (Nuts.Model.DB.flagZPopMin : Nat) ∧
    NutsProofs.Facts.lookup NutsGen.F.consts "DataStructureList" = some (Nuts.Model.DB.dsList : Nat) ∧
    (NutsGen.F.sconsts.find? (·.1 == "SeparatorForZSetKey")).map (·.2) = some "|" :=
  ⟨NutsProofs.Facts.consts_ok.2.2.2.2.2.2.2.2.2.2.2.2.2.1, NutsProofs.Facts.consts_ok.2.2.2.2.2.2.2.2.2.2.2.2.2.2.2.2.2.1,
   NutsProofs.Facts.separators_ok.2.1⟩

end NutsProofs.C08
