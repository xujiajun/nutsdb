/-
  C04 — Buckets are isolated namespaces (RAM index modes).
  Frame theorems on the model: a commit whose records all target buckets other than `b'` leaves every
  read on `b'` unchanged, for KV, list, set and sorted-set buckets, whatever the names are (the indexes
  are maps keyed by the whole bucket name; nothing is concatenated in these modes). Over every history of
  commits and reopens (`C04_bucket_is_function_of_own_records`): what a bucket holds is what the records of the
  log that name it produce on their own; hence two histories that agree on those records agree on the bucket
  (`C04_other_buckets_cannot_matter`). The frame lemmas (`view` …) also serve C12.
-/
import Nuts.Model.Tx
import NutsProofs.Lemmas.Assoc
import NutsProofs.Lemmas.Isolation
import NutsProofs.Lemmas.Reads
namespace NutsProofs.C04
open Nuts Nuts.Model Nuts.Model.DB

/-- the part of the state that reads on bucket `b` of a key+value-mode database depend on -/
structure View where
  kv : Option (Assoc Idx)
  list : Option ListDS.St
  set : Option SetDS.St
  zset : Option ZSetA.St
  deriving DecidableEq

def view (s : State) (b : Bytes) : View := ⟨aget? s.kv b, aget? s.lists b, aget? s.sets b, aget? s.zsets b⟩

theorem view_congr (s s' : State) (b : Bytes) (h1 : s'.kv = s.kv) (h2 : s'.lists = s.lists)
    (h3 : s'.sets = s.sets) (h4 : s'.zsets = s.zsets) : view s' b = view s b := by
  simp [view, h1, h2, h3, h4]

theorem applyOther_view (s : State) (r : Rec) (c : Bool) (b : Bytes) (h : b ≠ r.bucket) :
    view (applyOther s r c).1 b = view s b := by
  have hv := Isolation.stepSV_frame (ReopenAll.sv s) r c b h
  rw [← ReopenAll.applyOther_sv] at hv
  have hkv : (applyOther s r c).1.kv = s.kv := by rw [(ReopenAll.applyOther_eq s r c).1]
  unfold view
  rw [hkv]
  exact congr (congr (congrArg (View.mk _) (congrArg (·.1) hv)) (congrArg (·.2.1) hv)) (congrArg (·.2.2) hv)

theorem preRotate_view (s : State) (r : Rec) (b : Bytes) : view (preRotate s r) b = view s b := by
  unfold preRotate; split <;> rfl

theorem markLast_bucket (r : Rec) (last : Bool) : (markLast r last).bucket = r.bucket := by
  cases last <;> rfl

theorem writeRec_view (s : State) (r : Rec) (last : Bool) (b : Bytes) (h : r.ds = dsKV → b ≠ r.bucket) :
    view (writeRec s r last) b = view s b := by
  rw [← preRotate_view s r b, LogCommit.writeRec_eq]
  generalize preRotate s r = s1
  unfold view Reopen.kvPut
  simp only
  split
  · rename_i hkv; rw [aget_aput_other _ _ _ _ (markLast_bucket r last ▸ h hkv)]; rfl
  · rfl

theorem buildIdxes_view (recs : List Rec) (s : State) (b : Bytes) (h : ∀ r ∈ recs, r.ds ≠ dsKV → b ≠ r.bucket) :
    view (buildIdxes s recs).1 b = view s b := by
  induction recs generalizing s with
  | nil => rfl
  | cons r rest ih =>
    have hr : view (applyOther s r true).1 b = view s b := by
      by_cases hkv : r.ds = dsKV
      · rw [LogCommit.applyOther_kv_id s r true hkv]
      · exact applyOther_view s r true b (h r (by simp) hkv)
    simp only [buildIdxes]
    split
    · exact hr
    · rw [ih _ fun x hx => h x (by simp [hx]), hr]

/-- **C04 (RAM modes, frame).** A Commit — successful, failing half-way or panicking — whose records all
name buckets different from `b` leaves the KV index, the list, the set and the sorted set of bucket
`b` exactly as they were, for every bucket name (prefixes of each other, empty, equal to keys). -/
theorem C04_frame_ram (s : State) (recs : List Rec) (b : Bytes) (h : ∀ r ∈ recs, b ≠ r.bucket) :
    view (commit s recs).1 b = view s b :=
  LogCommit.commit_inv (fun s' => view s' b = view s b) recs
    (fun s' r l hr hs => (writeRec_view s' r l b fun _ => h r hr).trans hs)
    (fun s' r hs => (preRotate_view s' r b).trans hs)
    (fun s' hs => (buildIdxes_view recs s' b fun r hr _ => h r hr).trans hs) s rfl

theorem getAll_of_view (s s' : State) (b : Bytes) (now : Nat) (hm : s.opt.mode = 0) (hm' : s'.opt.mode = 0)
    (h : view s b = view s' b) : getAll s b now = getAll s' b now := by
  have hk : Reads.bucketOf s b = Reads.bucketOf s' b := by
    have : aget? s.kv b = aget? s'.kv b := by simpa [view] using congrArg View.kv h
    unfold Reads.bucketOf bucketIdx; rw [this]
  rw [Reads.getAll_eq, Reads.getAll_eq, hk, Reads.wrapper_eq_nil s (fun i => some i.r) now (-1) _ (fun i _ => Reads.fetch_mode0 s hm i),
    Reads.wrapper_eq_nil s' (fun i => some i.r) now (-1) _ (fun i _ => Reads.fetch_mode0 s' hm' i)]

/-- non-vacuity: two buckets whose names are prefixes of each other, a commit on one of them -/
example : view (commit {} [mkRec [97, 98] [99] [1] flagSet dsKV]).1 [97] = view {} [97] := by decide

/-! ### history level: a bucket is a function of its own records (`Lemmas/Isolation.lean`) -/

open NutsProofs.Reopen NutsProofs.ReopenAll NutsProofs.Isolation in
/-- **C04, every history, every structure.** After any history of successful commits over key/value pairs,
lists, sets and sorted sets, with reopens (key+value mode), what bucket `b` holds — the keys and cached
records of its key/value index, its list, set and sorted-set structures — is what the records of the log that
name `b` produce *on their own*, in their order: every record of every other bucket can be deleted from the
history without a trace in `b`. The only relation between bucket names used is `≠` on whole byte strings, so
prefixes, the empty name and coinciding bucket+key concatenations are covered. (`normKV` sets the status
field of the cached records to Committed, as recovery does; no read looks at that field.) -/
theorem C04_bucket_is_function_of_own_records (opt0 : Opts) (ops : List OpA) (hok : OpsOkA (openDB opt0 []).1 ops)
    (b : Bytes) :
    let s := ops.foldl stepA (openDB opt0 []).1
    let own := ((allRecs s.files).map (·.1)).filter fun r => r.bucket == b
    recsOf ((aget? (normKV s.kv) b).getD []) = bucketOfRecs [] (own.filter fun r => r.ds == dsKV) ∧
    viewSV (sv s) b = viewSV (foldSV emptySV own false) b := by
  intro s own
  have hinv : AllInv s := allInv_reached opt0 ops hok
  constructor
  · rw [hinv.idx, kvOfLog_project]
    congr 1
    show (((allRecs s.files).filter isKVrec).filter fun x => x.1.bucket == b).map (·.1) = own.filter fun r => r.ds == dsKV
    simp only [own, List.filter_map, List.filter_filter]
    congr 1
    apply List.filter_congr
    intro x _
    simp only [isKVrec, Function.comp]
    exact Bool.and_comm _ _
  · rw [hinv.structs]
    exact foldSV_project _ _ _ b false rfl

open NutsProofs.Reopen NutsProofs.ReopenAll NutsProofs.Isolation in
/-- **C04 as non-interference.** Two histories whose logs agree on the records that name `b` leave the same
thing in `b`, whatever they did to any other bucket. -/
theorem C04_other_buckets_cannot_matter (opt1 opt2 : Opts) (ops1 ops2 : List OpA)
    (hok1 : OpsOkA (openDB opt1 []).1 ops1) (hok2 : OpsOkA (openDB opt2 []).1 ops2) (b : Bytes)
    (hsame : (((allRecs (ops1.foldl stepA (openDB opt1 []).1).files).map (·.1)).filter fun r => r.bucket == b) =
             (((allRecs (ops2.foldl stepA (openDB opt2 []).1).files).map (·.1)).filter fun r => r.bucket == b)) :
    let s1 := ops1.foldl stepA (openDB opt1 []).1
    let s2 := ops2.foldl stepA (openDB opt2 []).1
    recsOf ((aget? (normKV s1.kv) b).getD []) = recsOf ((aget? (normKV s2.kv) b).getD []) ∧
    viewSV (sv s1) b = viewSV (sv s2) b := by
  intro s1 s2
  have h1 := C04_bucket_is_function_of_own_records opt1 ops1 hok1 b
  have h2 := C04_bucket_is_function_of_own_records opt2 ops2 hok2 b
  simp only at h1 h2
  refine ⟨?_, ?_⟩
  · rw [h1.1, h2.1, hsame]
  · rw [h1.2, h2.2, hsame]

/-- non-vacuity: a history over buckets "a", "ab" and "" with coinciding bucket+key concatenations -/
theorem C04_witness_colliding_names : NutsProofs.ReopenAll.OpsOkA (openDB {} []).1
    [.commit [mkRec [97] [98, 99] [1] flagSet dsKV], .commit [mkRec [97, 98] [99] [2] flagSet dsKV],
     .commit [mkRec [] [97, 98, 99] [3] flagSet dsKV], .reopen {}] := by
  refine ⟨⟨by simp, 0, ?_⟩, by decide +kernel, ⟨by simp, 0, ?_⟩, by decide +kernel, ⟨by simp, 0, ?_⟩, by decide +kernel, rfl, trivial⟩
  all_goals
    intro r hr
    simp only [List.mem_cons, List.mem_nil_iff, or_false] at hr
    subst hr
    exact ⟨by decide +kernel, rfl, fun hd => absurd hd (by decide +kernel)⟩

end NutsProofs.C04
