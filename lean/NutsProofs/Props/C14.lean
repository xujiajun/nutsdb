/-
  Property C14 — concurrent transactions are strictly serializable (and race-free, deadlock-free).

  Model: Nuts.Model.Conc — any number of threads, each running one transaction (a list of steps over an
  abstract database state) under the RWMutex protocol of tx.go, **every schedule**: any thread may be
  scheduled between any two steps of any other.

  Proved here (for all programs, all thread counts, all schedules):
    * mutual exclusion: a writer inside its transaction excludes everybody else; readers exclude writers
      (`C14_mutual_exclusion`);
    * a read-only transaction sees one unchanging state, and every finished transaction observed exactly
      what its program observes when run alone from the state it found at lock acquisition (`C14_snapshot`);
    * strict serializability: when all transactions have finished, the final state and every observation
      are those of running the transactions one after another in lock-acquisition order, each exactly once
      (`C14_strictly_serializable`); that order extends real time — a transaction that finished before
      another one acquired the lock comes earlier (`C14_real_time`);
    * no deadlock: while some transaction is unfinished, some step is enabled (`C14_no_deadlock`).
  Hypothesis `ReadPure` (steps of read-mode transactions do not change the shared state) and the shape of
  the protocol (lock taken by Begin according to `writable`, released by Commit/Rollback, nothing shared
  touched outside) are discharged for the code by the regenerated facts in `C14_facts_ok` — with the listed
  exceptions, each a recorded finding. Beyond the model (labelled partial): the Go memory model (lock ⇒
  happens-before), the runtime scheduler, the soundness of the effect extraction; the race detector and
  the lock-order replay of the `conc` suites are the search for those.
-/
import NutsProofs.Lemmas.Conc
import NutsGen.Facts
import NutsProofs.Pins.Locks
namespace NutsProofs.C14
open Nuts.Model.Conc NutsProofs.Conc

variable {S O : Type}

/-- **Mutual exclusion**, in every reachable state of every execution. -/
theorem C14_mutual_exclusion (progs : List (TxProg S O)) (st0 : S) (hpure : ∀ p ∈ progs, p.ReadPure) (sys : Sys S O)
    (hr : Reach (initSys st0 progs) sys) (i j : Nat) (ti tj : Thread S O)
    (hi : sys.threads[i]? = some ti) (hj : sys.threads[j]? = some tj) (hij : i ≠ j)
    (hbi : inBody ti = true) (hbj : inBody tj = true) : ti.prog.mode = .r ∧ tj.prog.mode = .r :=
  (reach_inv progs st0 hpure sys hr).excl i j ti tj hi hj hij hbi hbj

/-- **Snapshot.** While a read-only transaction is inside, the database state is the one it found when
it acquired the lock; and what any transaction has observed so far is what its program observes when run
alone from that state. -/
theorem C14_snapshot (progs : List (TxProg S O)) (st0 : S) (hpure : ∀ p ∈ progs, p.ReadPure) (sys : Sys S O)
    (hr : Reach (initSys st0 progs) sys) (i : Nat) (t : Thread S O) (hi : sys.threads[i]? = some t) :
    (∀ pc, t.phase = .body pc → t.obs = (run (t.prog.steps.take pc) t.s0).2 ∧ (t.prog.mode = .r → sys.st = t.s0)) ∧
    (t.phase = .done → t.obs = (run t.prog.steps t.s0).2) := by
  have h := reach_inv progs st0 hpure sys hr
  exact ⟨fun pc hp => (h.body i t pc hi hp).2, h.finished i t hi⟩

theorem serial_of_chain (progOf : Nat → Option (TxProg S O)) (obsOf : Nat → Option (List O)) (s : S) (log : List (Nat × S))
    (hc : Chain progOf s log)
    (hobs : ∀ i si, (i, si) ∈ log → ∃ p, progOf i = some p ∧ obsOf i = some (run p.steps si).2) :
    runSerial s (log.filterMap fun x => progOf x.1) = (endState progOf s log, log.filterMap fun x => obsOf x.1) := by
  induction log generalizing s with
  | nil => simp [runSerial, endState]
  | cons x rest ih =>
    obtain ⟨i, si⟩ := x
    obtain ⟨hs, p, hp, hrest⟩ := hc
    obtain ⟨p', hp', ho⟩ := hobs i si (by simp)
    rw [hp] at hp'; cases hp'
    subst hs
    simp only [List.filterMap_cons, hp, ho, runSerial, endState]
    rw [ih _ hrest (fun j sj hj => hobs j sj (by simp [hj]))]

/-- **Strict serializability.** When every transaction has finished, under any schedule: the final database
state and the observations of every transaction are exactly those of executing the transactions one after
another in the order in which they acquired the lock; every transaction occurs in that order exactly once. -/
theorem C14_strictly_serializable (progs : List (TxProg S O)) (st0 : S) (hpure : ∀ p ∈ progs, p.ReadPure) (sys : Sys S O)
    (hr : Reach (initSys st0 progs) sys) (hdone : ∀ (i : Nat) (t : Thread S O), sys.threads[i]? = some t → t.phase = .done) :
    runSerial st0 (sys.log.filterMap fun x => progs[x.1]?) =
      (sys.st, sys.log.filterMap fun x => (sys.threads[x.1]?).map (·.obs)) ∧
    (sys.log.map (·.1)).Nodup ∧
    (∀ (i : Nat) (t : Thread S O), sys.threads[i]? = some t → i ∈ sys.log.map (·.1)) := by
  have h := reach_inv progs st0 hpure sys hr
  refine ⟨?_, h.nodup, ?_⟩
  · have hq : sys.st = endState (fun i => progs[i]?) st0 sys.log := by
      apply h.quiet
      intro i t hi hb
      have := hdone i t hi
      simp [inBody, this] at hb
    rw [hq]
    apply serial_of_chain (fun i => progs[i]?) (fun i => (sys.threads[i]?).map (·.obs)) st0 sys.log h.chain
    intro i si hmem
    obtain ⟨t, ht, _, hs0⟩ := h.oflog i si hmem
    refine ⟨t.prog, h.prog i t ht, ?_⟩
    simp only [ht, Option.map_some]
    rw [h.finished i t ht (hdone i t ht), hs0]
  · intro i t hi
    have := h.logged i t hi (by rw [hdone i t hi]; simp)
    exact List.mem_map.mpr ⟨(i, t.s0), this, rfl⟩

theorem log_prefix {a b : Sys S O} (hr : Reach a b) : ∃ ext, b.log = a.log ++ ext := by
  induction hr with
  | refl => exact ⟨[], by simp⟩
  | @tail m _ _ hstep ih =>
    obtain ⟨ext, hext⟩ := ih
    cases hstep with
    | acquire i t hi hp hc => exact ⟨ext ++ [(i, m.st)], by simp [hext]⟩
    | step i t pc f hi hp hf => exact ⟨ext, hext⟩
    | release i t pc hi hp hend => exact ⟨ext, hext⟩

/-- **The serial order extends real time**: a transaction that has finished (indeed: has acquired the
lock) at some moment precedes, in the serial order, every transaction that acquires the lock later. -/
theorem C14_real_time (progs : List (TxProg S O)) (st0 : S) (hpure : ∀ p ∈ progs, p.ReadPure) (a b : Sys S O)
    (ha : Reach (initSys st0 progs) a) (hab : Reach a b) (i : Nat) (t : Thread S O)
    (hi : a.threads[i]? = some t) (hfin : t.phase = .done) :
    ∃ pre ext, a.log = pre ∧ b.log = pre ++ ext ∧ i ∈ pre.map (·.1) := by
  obtain ⟨ext, hext⟩ := log_prefix hab
  have h := reach_inv progs st0 hpure a ha
  have := h.logged i t hi (by rw [hfin]; simp)
  exact ⟨a.log, ext, rfl, hext, List.mem_map.mpr ⟨(i, t.s0), this, rfl⟩⟩

/-- **No deadlock**: as long as some transaction is unfinished, a step is enabled. -/
theorem C14_no_deadlock (progs : List (TxProg S O)) (st0 : S) (hpure : ∀ p ∈ progs, p.ReadPure) (sys : Sys S O)
    (hr : Reach (initSys st0 progs) sys) (i : Nat) (t : Thread S O) (hi : sys.threads[i]? = some t) (hnd : t.phase ≠ .done) :
    ∃ sys', Step sys sys' := by
  cases hany : anyIn sys with
  | true =>
    -- somebody is inside: its next step is enabled, or at the end of its program the release
    obtain ⟨tj, hmem, hb⟩ := List.any_eq_true.mp hany
    obtain ⟨j, hj⟩ := List.mem_iff_getElem?.mp hmem
    obtain ⟨pc, hp⟩ := (inBody_iff tj).mp hb
    rcases Nat.lt_or_ge pc tj.prog.steps.length with hlt | hge
    · exact ⟨_, .step sys j tj pc _ hj hp (List.getElem?_eq_getElem hlt)⟩
    · exact ⟨_, .release sys j tj pc hj hp (Nat.le_antisymm ((reach_inv progs st0 hpure sys hr).body j tj pc hj hp).1 hge)⟩
  | false =>
    -- nobody is inside: the unfinished thread is idle, and the lock is free
    have hidle : t.phase = .idle := by
      cases hph : t.phase with
      | idle => rfl
      | done => exact absurd hph hnd
      | body pc => cases (List.any_eq_false.mp hany t (List.mem_iff_getElem?.mpr ⟨i, hi⟩)) (inBody_body t pc hph)
    exact ⟨_, .acquire sys i t hi hidle (canAcquire_of_free sys _ hany)⟩

/-- **The hypotheses, for the code as it is now** (regenerated effect and lock facts): the transaction lock
is `db.mu`, taken in `Begin` on the side `writable` selects and released only by `Commit`/`Rollback`; no
`Tx` method other than these two touches a mutex; and no `Tx` method other than Commit/Rollback writes a
shared location — except the listed ones: a recorded finding (D-SMOVE) and a documented imprecision
(`ZRangeByRank`). The commit path writes no package-level state. (Two more exceptions were listed until they
were repaired: the sparse-mode scans sorted `db.BPTreeRootIdxes` in place, D-SORTFID, and the B+ tree
writer used a package-level `queue`, D-QUEUE.) -/
theorem C14_facts_ok :
    NutsGen.F.lockPrims = [("Tx.lock", ["DB.mu.Lock", "DB.mu.RLock"]), ("Tx.unlock", ["DB.mu.RUnlock", "DB.mu.Unlock"])] ∧
    (NutsGen.F.lockOps.filter fun p => p.1 == "Tx" && !(p.2.2.1.isEmpty && p.2.2.2.isEmpty)).map (·.2.1) = ["Commit", "Rollback"] ∧
    ((NutsGen.F.effects.filter fun p => p.1 == "Tx" && p.2.1 != "Commit" && p.2.1 != "Rollback" && !(p.2.2.1.isEmpty && p.2.2.2.isEmpty)).map
      fun p => (p.2.1, p.2.2.1)) = NutsProofs.Facts.impureTxMethods ∧
    (NutsProofs.Facts.eff "Tx" "Commit").2 = [] :=
  ⟨NutsProofs.Facts.lock_protocol_ok.1, NutsProofs.Facts.lock_protocol_ok.2.2.2.1, NutsProofs.Facts.read_pure_except.1,
   NutsProofs.Facts.globals_ok.1⟩

/-! ### a concrete system: two writers and a reader over a counter -/

def incr : Nat → Nat × Nat := fun n => (n + 1, n)
def look : Nat → Nat × Nat := fun n => (n, n)

def demo : List (TxProg Nat Nat) := [⟨.w, [incr, incr]⟩, ⟨.r, [look, look]⟩, ⟨.w, [incr]⟩]

example : ∀ p ∈ demo, p.ReadPure := by
  intro p hp
  simp only [demo, List.mem_cons, List.mem_nil_iff, or_false] at hp
  rcases hp with rfl | rfl | rfl <;> intro hm
  · cases hm
  · intro f hf s; simp only [List.mem_cons, List.mem_nil_iff, or_false] at hf; rcases hf with rfl | rfl <;> rfl
  · cases hm

example : runSerial 0 demo = (3, [[0, 1], [2, 2], [2]]) := by decide

end NutsProofs.C14
