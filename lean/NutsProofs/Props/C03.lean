/-
  C03 — Paginated scans page through live keys.
  As coded, offset and limit are applied to index records *before* deleted/expired ones are dropped
  (finding D-SCAN-DEAD), so the property holds only when no dead record with the prefix lies in
  the scanned block.
-/
import Nuts.Model.Tx
import Nuts.Spec.DB
import NutsProofs.Lemmas.BPTreeRefine
import NutsProofs.Lemmas.Hints
import NutsProofs.Pins.BPT
namespace NutsProofs.C03
open Nuts Nuts.Model Nuts.Model.DB

/-- **C03 (partial).** In key+value mode, when no record selected by the tree walk is dead, the scan
returns exactly the walk's records: offset and limit have been applied to live keys only. -/
theorem C03_page_nodead (s : State) (hm : s.opt.mode = 0) (now : Nat) (lim : Nat) (hl : 0 < lim)
    (recs : List Idx) (hd : ∀ i ∈ recs, dead i.r now = false) (hlen : recs.length ≤ lim) :
    wrapper s recs lim now = .ok (recs.map fun i => some i.r) := by
  rw [Reads.wrapper_eq_nil s (fun i => some i.r) now lim recs (fun i _ => Reads.fetch_mode0 s hm i),
    List.filter_eq_self.mpr (fun i hi => by simp [hd i hi]), Reads.cut_of_length_le _ _ (Or.inr (by simpa using hlen))]

/-- Witness of D-SCAN-DEAD: `p1, p2` written, `p1` deleted; `PrefixScan("p", 0, 1)` reports "not found"
although `p2` is live: the tombstone consumed the limit. -/
def sW : State :=
  let s1 := (commit (openDB {} []).1
    [{ (mkRec [97] [112, 49] [120] flagSet dsKV) with txid := 1 }, { (mkRec [97] [112, 50] [121] flagSet dsKV) with txid := 1 }]).1
  (commit s1 [{ (mkRec [97] [112, 49] [] flagDelete dsKV) with txid := 2 }]).1

theorem C03_witness_tombstone_consumes_limit :
    prefixScan sW [97] [112] 0 1 0 = .err ∧
    (prefixScan sW [97] [112] 0 (-1) 0).map (fun l => l.map fun o => o.map (·.key)) = .ok [some [112, 50]] := by
  decide

/-! ### the scans walk a B+ tree

`DB.rangeScan` and `DB.prefixScan` select from the sorted association list. The code descends to the leaf
`FindLeaf(start)` reaches, skips the smaller keys *in that leaf only* and then follows the leaf chain. On
every well-formed tree (every tree `Insert` builds: `BPT.Tree.inserts_refine`) the two
coincide. -/

open Nuts.Model.BPTree NutsProofs.BPT in
/-- **C03 (range scan on the tree).** `findRange(start, end)` on a well-formed B+ tree returns exactly the
records with `start ≤ key ≤ end`, in ascending order. -/
theorem C03_tree_range_is_filter (t : Tree Idx) (h : Tree.WF t) (st en : Bytes) :
    Tree.range t st en = t.toList.filter fun p => ble st p.1 && ble p.1 en :=
  Tree.range_eq_filter t h st en

open Nuts.Model.BPTree NutsProofs.BPT in
/-- **C03 (prefix scans on the tree).** `PrefixScan` / `PrefixSearchScan` on a well-formed B+ tree return
the records, and the final offset counter, of `DB.prefixWalk` on the sorted list, for every prefix, offset,
limit and match predicate. -/
theorem C03_tree_prefix_scan_is_walk (t : Tree Idx) (h : Tree.WF t) (pre : Bytes) (off lim : Int) (mt : Bytes → Bool) :
    ((Tree.prefixScan t pre off lim mt).1.map (·.2), (Tree.prefixScan t pre off lim mt).2) =
      prefixWalk t.toList pre off lim mt :=
  Tree.prefixScan_eq_walk t h pre off lim mt

/-! ### paging against the spec, when no dead record has the prefix -/

def pairOf (p : Bytes × Idx) : Bytes × Bytes := (p.1, p.2.r.value)

def pageSel {β} (off lim : Int) (mt : Bytes → Bool) (l : List (Bytes × β)) : List (Bytes × β) :=
  if lim > 0 then ((l.drop off.toNat).filter fun p => mt p.1).take lim.toNat else (l.drop off.toNat).filter fun p => mt p.1

open NutsProofs.KVRefine in
theorem live_pairs_nodead (l : Assoc Idx) (now : Nat) (hok : IdxOk l) (hn : now < 2 ^ 64)
    (hnd : ∀ p ∈ l, dead p.2.r now = false) : liveBucket (absBucket l) now = l.map pairOf := by
  rw [liveBucket_abs l now hok hn, List.filter_eq_self.mpr fun p hp => by simp [hnd p hp]]
  rfl

open NutsProofs.KVRefine NutsProofs.Reads in
/-- the tail of a scan on a selection without dead records that fits the limit: everything is returned -/
theorem scan_tail_nodead (s : State) (hm : s.opt.mode = 0) (now : Nat) (lim : Int) (sel : List (Bytes × Idx))
    (hok : IdxOk sel) (hnd : ∀ p ∈ sel, dead p.2.r now = false)
    (hlim : lim = -1 ∨ (lim > 0 ∧ sel.length ≤ lim.toNat)) :
    (if (sel.map (·.2)).isEmpty then (Outcome.err : Outcome (List (Option Rec)))
      else nonEmptyOrErr (wrapper s (sel.map (·.2)) lim now)).map pairsOf =
      if sel.map pairOf = [] then .err else .ok (sel.map pairOf) := by
  have he : (if (sel.map (·.2)).isEmpty then (Outcome.err : Outcome (List (Option Rec)))
      else nonEmptyOrErr (wrapper s (sel.map (·.2)) lim now)) = nonEmptyOrErr (wrapper s (sel.map (·.2)) lim now) := by
    cases sel <;> rfl
  rw [he, scan_shows s sel lim now (.of_mode0 hm hok), List.filter_eq_self.mpr fun p hp => by simp [hnd p hp],
    cut_of_length_le lim sel (hlim.imp_right (·.2)), nonEmptyOrErr_ok]
  rfl

open NutsProofs.KVRefine NutsProofs.Reads NutsProofs.Paging in
theorem page_nodead (s : State) (b : Bytes) (hs : Sorted (bucketOf s b)) (hok : IdxOk (bucketOf s b))
    (hsh : Shows s (bucketOf s b)) (pre : Bytes) (off lim : Int) (hlim : lim > 0 ∨ lim = -1)
    (mt : Bytes → Bool) (now : Nat) (hn : now < 2 ^ 64)
    (hnd : ∀ p ∈ bucketOf s b, hasPrefix p.1 pre = true → dead p.2.r now = false) :
    (prefixScan s b pre off lim now mt).map pairsOf =
      let sel := page off lim mt ((liveBucket (absBucket (bucketOf s b)) now).filter fun x => hasPrefix x.1 pre)
      if sel = [] then .err else .ok sel := by
  have hblock : ∀ p ∈ (bucketOf s b).filter (fun p => hasPrefix p.1 pre), p ∈ bucketOf s b ∧ dead p.2.r now = false :=
    fun p hp => ⟨(List.mem_filter.mp hp).1, hnd p (List.mem_filter.mp hp).1 (by simpa using (List.mem_filter.mp hp).2)⟩
  have hsub := page_subset off lim mt ((bucketOf s b).filter fun p => hasPrefix p.1 pre)
  have hmap : ∀ l : Assoc Idx, page off lim mt (l.map pairOf) = (page off lim mt l).map pairOf :=
    page_map (fun i : Idx => i.r.value) off lim mt
  have hokp : IdxOk (page off lim mt ((bucketOf s b).filter fun p => hasPrefix p.1 pre)) :=
    fun p hp => hok p (hblock p (hsub p hp)).1
  rw [prefixScan_pairs s b pre off lim mt now _ (PrefixRefine.prefixWalk_sorted _ hs pre off lim mt)
      (hsh.subset fun p hp => (hblock p (hsub p hp)).1) hokp hn,
    live_pairs_nodead _ now hokp hn (fun p hp => (hblock p (hsub p hp)).2),
    cut_of_length_le lim _ (hlim.symm.imp_right fun hl => by simpa using page_length_le off lim hl mt _), nonEmptyOrErr_ok,
    ← hmap,
    ← live_pairs_nodead _ now (hok.filter _) hn (fun p hp => (hblock p hp).2), live_filter_keys _ now fun k => hasPrefix k pre]

open NutsProofs.KVRefine in
/-- **C03 (partial: no dead record with the prefix), bucket level, key+value mode.** -/
theorem prefixScan_page_nodead (s : State) (hm : s.opt.mode = 0) (b : Bytes) (m : Assoc Idx) (hb : bucketIdx s b = some m)
    (hs : Sorted m) (pre : Bytes) (off lim : Int) (hoff : 0 ≤ off) (hlim : lim > 0 ∨ lim = -1) (mt : Bytes → Bool)
    (now : Nat) (hok : IdxOk m) (hn : now < 2 ^ 64)
    (hnd : ∀ p ∈ m, hasPrefix p.1 pre = true → dead p.2.r now = false) :
    (prefixScan s b pre off lim now mt).map pairsOf =
      let sel := pageSel off lim mt ((liveBucket (absBucket m) now).filter fun x => hasPrefix x.1 pre)
      if sel = [] then .err else .ok sel := by
  have hb' := Reads.bucketOf_some hb
  subst hb'
  exact page_nodead s b hs hok (.of_mode0 hm hok) pre off lim hlim mt now hn hnd

open NutsProofs.Reopen NutsProofs.KVRefine NutsProofs.Hints in
/-- **C03 (partial, every history, both RAM index modes).** After any history of key/value transactions and
reopens, if no record of bucket `b` whose key has the prefix is dead (deleted or expired) at the time of the
call, then `PrefixScan(prefix, offset, limit)` with `offset ≥ 0` and `limit > 0` or `limit = -1` is the spec's
page: the live pairs with the prefix in ascending order, the first `offset` skipped, then — the matching
ones, for `PrefixSearchScan`, which the property considers with offset 0 — at most `limit` of them; an error
exactly when the page is empty. With a dead record in the block this fails: `C03_witness_tombstone_consumes_limit`
(finding D-SCAN-DEAD). -/
theorem C03_page_refines_spec_nodead (opt0 : Opts) (ops : List Op) (hok : OpsOk (openDB opt0 []).1 ops)
    (hrec : OpsRecOk ops) (now : Nat) (hn : now < 2 ^ 64) (b pre : Bytes)
    (off lim : Int) (hoff : 0 ≤ off) (hlim : lim > 0 ∨ lim = -1) (mt : Bytes → Bool)
    (hnd : ∀ m, bucketIdx (ops.foldl stepOp (openDB opt0 []).1) b = some m →
      ∀ p ∈ m, hasPrefix p.1 pre = true → dead p.2.r now = false) :
    let s := ops.foldl stepOp (openDB opt0 []).1
    let spec : Nuts.Spec.DB.SpecDB := { kv := specOfOps ops }
    let page := pageSel off lim mt ((Nuts.Spec.DB.liveOf spec b now).filter fun x => hasPrefix x.1 pre)
    (prefixScan s b pre off lim now mt).map pairsOf = if page = [] then .err else .ok page := by
  intro s spec page
  obtain ⟨hA, hs, hok', _, hf⟩ := (reached_presents opt0 ops hok hrec).bucket b
  have hnd' : ∀ p ∈ Reads.bucketOf s b, hasPrefix p.1 pre = true → dead p.2.r now = false := Reads.forall_bucketOf hnd
  have hpage : page = pageSel off lim mt ((liveBucket (absBucket (Reads.bucketOf s b)) now).filter fun x => hasPrefix x.1 pre) := by
    show pageSel off lim mt ((liveBucket ((aget? (specOfOps ops) b).getD []) now).filter _) = _
    rw [hA]
  rw [page_nodead s b hs hok' hf pre off lim hlim mt now hn hnd', hpage]
  rfl

/-- **regenerated tie of the scans.** The loop headers, the prefix test, the offset counter (`coff < offsetNum`,
`coff++`) and the limit test (`limitNum > 0 && numFound == limitNum`) of `PrefixScan` / `PrefixSearchScan`, and
the bounds of `findRange`, are on this run the lines the model was written from (part of
`NutsProofs.Facts.expectedBptStmts`). -/
theorem C03_scan_statements_regenerated : NutsGen.F.bptStmts = NutsProofs.Facts.expectedBptStmts :=
  NutsProofs.Facts.bpt_statements_ok

end NutsProofs.C03
