/-
  Property C22 — opening with an incompatible index mode is refused.

  Model: Nuts.Model.Dir (directory listings; `refuses` = the decision of `checkEntryIdxMode`, whose two
  conditions and whose position in `Open` are regenerated facts) and Nuts.Model.DB (`openDB`).

  Proved for **every** directory the library can produce in one mode (all histories, merges and crash
  points: reachability is over single listing mutations):
    * a directory produced in sparse mode that holds a data file is refused by both RAM modes, and the
      refused `Open` leaves the listing as it was — `C22_refuse_ram_on_sparse`;
    * a directory produced in a RAM mode that holds a data file is refused by sparse mode, unchanged —
      `C22_refuse_sparse_on_ram`;
    * the mode that produced a directory, and the other RAM mode, are always accepted —
      `C22_ram_accepts_ram`, `C22_sparse_accepts_sparse`;
    * switching between the two RAM modes on key/value data rebuilds exactly the same index from the same
      files — `C22_ram_switch_same_index`.
-/
import Nuts.Model.Dir
import Nuts.Model.DB
import NutsProofs.Facts
import NutsProofs.Pins.Modes
namespace NutsProofs.C22
open Nuts Nuts.Model.Dir

/-! ### invariants of the listings each mode produces -/

theorem ram_never_bpt {d : Dir} (h : RamReach d) : d.bpt = false := by
  induction h with
  | empty => rfl
  | step _ st ih => cases st <;> exact ih

theorem sparse_dat_implies_bpt {d : Dir} (h : SparseReach d) : hasDat d = true → d.bpt = true := by
  induction h with
  | empty => intro h; simp [hasDat] at h
  | step _ st ih =>
    cases st with
    | mkBpt _ => intro _; rfl
    | mkDat fid hb => intro _; exact hb

/-! ### the property -/

/-- **Sparse-mode data is refused by the RAM modes, and the directory is left unchanged.** -/
theorem C22_refuse_ram_on_sparse {d : Dir} (h : SparseReach d) (hd : hasDat d = true) (mode : Nat) (hm : isSparse mode = false) :
    openDir mode d = (false, d) := by
  have hb := sparse_dat_implies_bpt h hd
  simp [openDir, refuses, hm, hd, hb]

/-- **RAM-mode data is refused by sparse mode, and the directory is left unchanged.** -/
theorem C22_refuse_sparse_on_ram {d : Dir} (h : RamReach d) (hd : hasDat d = true) :
    openDir 2 d = (false, d) := by
  have hb := ram_never_bpt h
  simp [openDir, refuses, isSparse, hd, hb]

/-- A directory produced in a RAM mode is accepted by both RAM modes (the switch is allowed) … -/
theorem C22_ram_accepts_ram {d : Dir} (h : RamReach d) (mode : Nat) (hm : isSparse mode = false) :
    (openDir mode d).1 = true := by
  have hb := ram_never_bpt h
  simp [openDir, refuses, hm, hb]

/-- … and one produced in sparse mode by sparse mode. -/
theorem C22_sparse_accepts_sparse {d : Dir} (h : SparseReach d) : (openDir 2 d).1 = true := by
  have hb := sparse_dat_implies_bpt h
  unfold openDir refuses
  cases hd : hasDat d
  · simp [isSparse]
  · simp [isSparse, hb hd]

theorem openDir_monotone (mode : Nat) (d : Dir) : (∀ f ∈ d.dats, f ∈ (openDir mode d).2.dats) ∧ (d.bpt = true → (openDir mode d).2.bpt = true) := by
  unfold openDir
  split
  · exact ⟨fun _ h => h, fun h => h⟩
  · constructor
    · intro f hf
      simp only
      split
      · rename_i he; simp [List.isEmpty_iff.mp he] at hf
      · exact hf
    · intro h; simp [h]

/-- the decision is the one in the source: the two refusal conditions and the position of the check
(before any directory or file is created) as regenerated from /repo -/
theorem C22_decision_as_coded :
    NutsGen.F.modeRefusals = ["db.opt.EntryIdxMode != HintBPTSparseIdxMode && hasDataFlag && hasBptDirFlag",
                              "db.opt.EntryIdxMode == HintBPTSparseIdxMode && hasBptDirFlag == false && hasDataFlag == true"] ∧
    NutsGen.F.openOrder = ["mkdir db.opt.Dir", "check", "mkdir bptRootIdxDir", "mkdir bptTxIDIdxDir", "mkdir bucketMetaDir", "buildIndexes"] ∧
    NutsProofs.Facts.lookup NutsGen.F.consts "HintBPTSparseIdxMode" = some 2 :=
  ⟨NutsProofs.Facts.mode_refusals_ok, NutsProofs.Facts.open_check_first,
    NutsProofs.Facts.consts_ok.2.2.2.2.2.2.2.2.2.2.2.2.2.2.2.2.2.2.2.2.2.2.2.2.2.2.1⟩

/-! ### RAM ↔ RAM switch: the same index is rebuilt -/

def SameButOpt (a b : Nuts.Model.DB.State) : Prop :=
  a.files = b.files ∧ a.kv = b.kv ∧ a.lists = b.lists ∧ a.sets = b.sets ∧ a.zsets = b.zsets ∧ a.committed = b.committed ∧
  a.activeFid = b.activeFid ∧ a.hintFid = b.hintFid ∧ a.writeOff = b.writeOff ∧ a.actualSize = b.actualSize

open Nuts.Model.DB in
theorem replay_kv_mode_independent (rs : List (Rec × Nat × Nat)) (ids : List Nat) (a b : State)
    (hkv : ∀ x ∈ rs, x.1.ds = dsKV) (hab : SameButOpt a b) :
    SameButOpt (replay a rs ids).1 (replay b rs ids).1 ∧ (replay a rs ids).2 = (replay b rs ids).2 := by
  induction rs generalizing a b with
  | nil => exact ⟨hab, rfl⟩
  | cons x rest ih =>
    obtain ⟨r, fid, pos⟩ := x
    have hr : (r.ds == dsKV) = true := by rw [hkv (r, fid, pos) (List.mem_cons_self ..)]; rfl
    have hrest : ∀ x ∈ rest, x.1.ds = dsKV := fun x hx => hkv x (List.mem_cons_of_mem _ hx)
    simp only [replay, hr, if_true]
    split
    · exact ih a b hrest hab
    · refine ih _ _ hrest ?_
      obtain ⟨h1, h2, h3⟩ := hab
      exact ⟨h1, congrArg (fun kv => aput kv _ (upsert ((aget? kv _).getD []) _ _)) h2, h3⟩

open Nuts.Model.DB in
/-- **Switching between the two RAM index modes on key/value data shows the same contents**: `Open` on the
same files rebuilds the same key/value index (same records, same hints), the same set of committed
transactions and the same write position, whatever the two option sets are, as long as both are RAM modes
— indeed for any two option sets: nothing in the replay of key/value records looks at the options. -/
theorem C22_ram_switch_same_index (o1 o2 : Opts) (fs : List File)
    (hkv : ∀ x ∈ allRecs (fileEnsure fs ((fs.map (·.fid)).foldl max 0)), x.1.ds = dsKV) :
    SameButOpt (openDB o1 fs).1 (openDB o2 fs).1 ∧ (openDB o1 fs).2 = (openDB o2 fs).2 := by
  unfold openDB
  simp only
  split
  · exact ⟨⟨rfl, rfl, rfl, rfl, rfl, rfl, rfl, rfl, rfl, rfl⟩, rfl⟩
  · split
    · exact ⟨⟨rfl, rfl, rfl, rfl, rfl, rfl, rfl, rfl, rfl, rfl⟩, rfl⟩
    · exact replay_kv_mode_independent _ _ _ _ hkv ⟨rfl, rfl, rfl, rfl, rfl, rfl, rfl, rfl, rfl, rfl⟩

/-! ### non-vacuity: concrete reachable directories -/

example : SparseReach { dats := [0], bpt := true } :=
  .step (.step .empty (.mkBpt {} (by decide))) (.mkDat { bpt := true } 0 rfl)

example : RamReach { dats := [1, 0], bpt := false } :=
  .step (.step .empty (.mkDat {} 0)) (.mkDat { dats := [0] } 1)

example : openDir 0 { dats := [0], bpt := true } = (false, { dats := [0], bpt := true }) := by decide
example : openDir 2 { dats := [1, 0], bpt := false } = (false, { dats := [1, 0], bpt := false }) := by decide
example : openDir 1 { dats := [1, 0], bpt := false } = (true, { dats := [1, 0], bpt := false }) := by decide

end NutsProofs.C22
