/-
  C09 — Open succeeds on every directory the library produced.
  Proved over the model of `Open`: (1) KV logs open in both RAM modes; (2) in the key+value mode `Open`
  never returns an error on any log without a torn record, and succeeds on every log without list
  records (list records can only make replay *panic*, on argument shapes the API never writes); (3) after every
  history of commits and reopens with records of all four structures `Open` succeeds
  (`C09_open_succeeds_after_every_history`).
-/
import Nuts.Model.Tx
import NutsProofs.Props.C10
import NutsProofs.Lemmas.ReopenAll
namespace NutsProofs.C09
open Nuts Nuts.Model Nuts.Model.DB

theorem replay_kv_ok (rs : List (Rec × Nat × Nat)) (ids : List Nat) (s : State)
    (h : ∀ x ∈ rs, x.1.ds = dsKV) : (replay s rs ids).2 = .ok () := by
  rw [Replay.replay_kvOnly rs ids s h]

theorem openDB_untorn_cases (opt : Opts) (fs : List File) (P : Outcome Unit → Prop)
    (hnt : ∀ f ∈ fileEnsure fs ((fs.map (·.fid)).foldl max 0), f.torn = false) (hok : P (.ok ()))
    (hrep : ∀ s ids, s.opt = opt.core → P (replay s (allRecs (fileEnsure fs ((fs.map (·.fid)).foldl max 0))) ids).2) :
    P (openDB opt fs).2 := by
  refine Replay.openDB_cases opt fs (fun p => P p.2) (fun _ => hok) (fun ht => ?_) (fun _ => hrep _ _ rfl)
  obtain ⟨f, hf, hft⟩ := List.any_eq_true.mp ht
  rw [hnt f hf] at hft
  cases hft

/-- **C09 (key/value logs).** `Open` succeeds on any set of data files that hold key/value records
only and no record cut short by a crash — whatever the records are (committed or not, duplicated,
from failed transactions), however full the segments are, in both RAM modes and both RW modes
(the MMap exception was finding D-MMAP-FULL, fixed). -/
theorem C09_open_ok_kv (opt : Opts) (fs : List File)
    (hnt : ∀ f ∈ fileEnsure fs ((fs.map (·.fid)).foldl max 0), f.torn = false)
    (hkv : ∀ x ∈ allRecs (fileEnsure fs ((fs.map (·.fid)).foldl max 0)), x.1.ds = dsKV) :
    (openDB opt fs).2 = .ok () :=
  openDB_untorn_cases opt fs (· = .ok ()) hnt rfl fun _ _ _ => replay_kv_ok _ _ _ hkv

/-- Witness of the open finding D-TORN-CRC: a record cut short by a crash makes `Open` fail. -/
theorem C09_witness_torn :
    (openDB {} [{ fid := 0, recs := [], torn := true }]).2 = .err := by decide

/-- exactly full segment, MMap: opens (regression of D-MMAP-FULL) -/
example : (openDB { rw := 1, startRw := 1, seg := 46 }
    [{ fid := 0, recs := [(0, { (mkRec [97] [107] [1, 2] flagSet dsKV) with status := 1 })] }]).2 = .ok () := by decide


/-! ### every structure, key+value mode: `Open` never returns an error (fix of D-REPLAY-ABORT as a theorem) -/

theorem applySet_no_panic (m : SetDS.St) (r : Rec) : (applySet m r).2 ≠ .panic := by
  unfold applySet
  split
  · unfold SetDS.srem
    cases SetDS.get? m r.key with
    | none => simp
    | some l => by_cases h : r.value.isEmpty <;> simp [h]
  · split <;> simp

theorem applyZSet_open_ok (z : ZSetA.St) (r : Rec) : (applyZSet z r false).2 = .ok () := by
  unfold applyZSet
  generalize splitSep r.key = l
  rcases l with _ | ⟨k, _ | ⟨a, _ | ⟨b, t⟩⟩⟩ <;> simp only [apply_ite Prod.snd, Bool.false_eq_true, if_false, ite_self]

open NutsProofs.ReopenAll in
theorem stepSV_open_no_panic (v : SV) (r : Rec) (h : r.ds ≠ dsList) : (stepSV v r false).2 ≠ .panic := by
  rw [stepSV_eq, if_neg h]
  split
  · exact applySet_no_panic _ _
  · split
    · rw [applyZSet_open_ok]; nofun
    · nofun

/-- errors of the structure calls are ignored, exactly as at commit time -/
theorem replay_mode0_no_err (rs : List (Rec × Nat × Nat)) (ids : List Nat) (s : State)
    (hm : s.opt.mode = 0) : (replay s rs ids).2 ≠ .err := by
  induction rs generalizing s with
  | nil => simp [replay]
  | cons x rest ih =>
    obtain ⟨r, fid, pos⟩ := x
    cases hin : ids.contains r.txid
    · rw [Replay.replay_skip s r fid pos rest ids hin]; exact ih s hm
    · by_cases hkv : r.ds = dsKV
      · rw [Replay.replay_kv s r fid pos rest ids hin hkv]; exact ih _ hm
      · rw [Replay.replay_other s r fid pos rest ids hin hkv hm]
        split
        · simp
        · exact ih _ (by rw [(Replay.applyOther_idxOnly s r false).opt]; exact hm)

open NutsProofs.ReopenAll in
theorem replay_mode0_nolist_ok (rs : List (Rec × Nat × Nat)) (ids : List Nat) (s : State)
    (hm : s.opt.mode = 0) (h : ∀ x ∈ rs, x.1.ds ≠ dsList) : (replay s rs ids).2 = .ok () := by
  rw [Replay.replay_visible]
  exact (Replay.replay_ok _ ids s (fun x hx => (List.mem_filter.mp hx).2) (Or.inl hm) (noPanic_of_forall _ _ _
    fun x hx w => stepSV_open_no_panic w x.1 (h x (List.mem_filter.mp hx).1))).1

/-- **C09 (key+value mode, no torn record): `Open` never returns an error.** For every set of data
files — any records of any structure, committed or not, from failed transactions, duplicated by a
merge, any fill level — `Open` in `HintKeyValAndRAMIdxMode` does not fail. -/
theorem C09_open_mode0_never_err (opt : Opts) (fs : List File) (hm : opt.mode = 0)
    (hnt : ∀ f ∈ fileEnsure fs ((fs.map (·.fid)).foldl max 0), f.torn = false) :
    (openDB opt fs).2 ≠ .err :=
  openDB_untorn_cases opt fs (· ≠ .err) hnt (by simp) fun _ _ hs => replay_mode0_no_err _ _ _ (by rw [hs]; exact hm)

/-- **C09 (key+value mode, KV + set + sorted-set logs): `Open` succeeds.** -/
theorem C09_open_mode0_nolist_ok (opt : Opts) (fs : List File) (hm : opt.mode = 0)
    (hnt : ∀ f ∈ fileEnsure fs ((fs.map (·.fid)).foldl max 0), f.torn = false)
    (hnl : ∀ x ∈ allRecs (fileEnsure fs ((fs.map (·.fid)).foldl max 0)), x.1.ds ≠ dsList) :
    (openDB opt fs).2 = .ok () :=
  openDB_untorn_cases opt fs (· = .ok ()) hnt rfl fun _ _ hs => replay_mode0_nolist_ok _ _ _ (by rw [hs]; exact hm) hnl

/-- the hypotheses are met by a log with a set record whose removal fails at replay (`SRem` on a set
that does not exist — the shape of D-REPLAY-ABORT) and a sorted-set record -/
example : (openDB {} [{ fid := 0, recs := [
      (0, { (mkRec [98] [97, 98] [121] flagDelete dsSet) with txid := 1, status := 1 }),
      (46, { (mkRec [98] [107, 124, 53] [118] flagZAdd dsZSet) with txid := 2, status := 1, score := 5 })] }]).2 = .ok () := by decide

open NutsProofs.ReopenAll in
/-- **C09 (every history, key+value mode).** After any history of successfully committed transactions over
all four structures and reopens — and also when the process died inside the next `Commit` after any number of
its records short of the last — `Open` succeeds on the directory: no error, no panic. (Records that never
panicked the applier at commit time do not panic it at replay; an unmarked suffix is skipped.) Torn records
are outside this theorem: finding D-TORN-CRC. -/
theorem C09_open_succeeds_after_every_history (opt0 : Opts) (ops : List OpA) (hok : OpsOkA (openDB opt0 []).1 ops)
    (opt : Opts) (hm : opt.mode = 0) :
    (openDB opt (ops.foldl stepA (openDB opt0 []).1).files).2 = .ok () ∧
    ∀ (t : List Rec) (tid j : Nat), (∀ r ∈ t, r.txid = tid ∧ r.status = 0) →
      (∀ x ∈ allRecs (ops.foldl stepA (openDB opt0 []).1).files, x.1.txid ≠ tid) →
      (openDB opt (crashAfterA (ops.foldl stepA (openDB opt0 []).1) t j).files).2 = .ok () := by
  have hinv : AllInv (ops.foldl stepA (openDB opt0 []).1) := allInv_reached opt0 ops hok
  exact ⟨(open_rebuilds_all _ hinv opt hm).1,
    fun t tid j ht hfresh => (crash_in_commit_any _ hinv t tid j ht hfresh opt hm).1⟩

end NutsProofs.C09
