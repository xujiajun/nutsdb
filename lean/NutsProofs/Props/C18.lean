/-
  Property C18 — Backup captures a consistent, openable copy.

  `DB.Backup(dir)` is `db.View(func(tx) { CopyDir(db.opt.Dir, dir) })`: a read-mode transaction whose steps
  copy the data files one after another. In the protocol model of C14 that is a read-mode program over the
  database model's state whose i-th step observes the i-th file and changes nothing.

  Proved:
    * `backup_pure`, `backup_copies_files` — the program is `ReadPure`, and run alone from a state it yields,
      position by position, that state's files;
    * `C18_backup_consistent` — under **any** schedule with any number of concurrent writers and readers, when
      the backup transaction has finished, what it copied is exactly the file set of the database state at
      the moment it acquired the read lock — no mixture of earlier and later files (from `C14_snapshot`);
    * `C18_copy_opens_like_the_original` — `Open` is a function of the files: the copy opens to exactly the
      state the original directory would open to (same index, same committed set), under any options.
  Carried by the correspondence (suite `conc … -backup`): that the real `CopyDir` copies what the model's
  files abstract, that the copy opens, and that its observation equals the spec state at the backup's
  position in the lock order. Beyond the model (partial): coherence of file reads with a shared mapping
  (MMap mode) — OS behaviour.
-/
import NutsProofs.Props.C14
import Nuts.Model.DB
import NutsProofs.Pins.Backup
namespace NutsProofs.C18
open Nuts.Model.Conc Nuts.Model.DB

/-- the i-th step of a backup: look at the i-th data file (`none` when the directory has fewer) -/
def copyStep (i : Nat) : State → State × Option File := fun s => (s, s.files[i]?)

/-- Backup of a directory with (at most) `n` data files -/
def backupProg (n : Nat) : TxProg State (Option File) := ⟨.r, (List.range n).map copyStep⟩

theorem backup_pure (n : Nat) : (backupProg n).ReadPure := by
  intro _ f hf s
  simp only [backupProg, List.mem_map] at hf
  obtain ⟨i, _, rfl⟩ := hf
  rfl

theorem run_copySteps (l : List Nat) (s : State) :
    run (l.map copyStep) s = (s, l.map fun i => s.files[i]?) := by
  induction l with
  | nil => rfl
  | cons i rest ih => simp [run, ih, copyStep]

theorem backup_copies_files (n : Nat) (s : State) :
    (run (backupProg n).steps s).2 = (List.range n).map fun i => s.files[i]? := by
  simp only [backupProg, run_copySteps]

/-- **Consistency under concurrency.** Whatever the other threads do and however they are scheduled, a
finished backup transaction has copied, position by position, exactly the data files of the one database
state it found when it acquired the read lock — never a mixture of files of different states. -/
theorem C18_backup_consistent (progs : List (TxProg State (Option File))) (st0 : State)
    (hpure : ∀ p ∈ progs, p.ReadPure) (sys : Sys State (Option File)) (hr : Reach (initSys st0 progs) sys)
    (i : Nat) (t : Thread State (Option File)) (hi : sys.threads[i]? = some t) (n : Nat)
    (hprog : t.prog = backupProg n) (hdone : t.phase = .done) :
    t.obs = (List.range n).map fun k => t.s0.files[k]? := by
  have := (C14.C14_snapshot progs st0 hpure sys hr i t hi).2 hdone
  rw [this, hprog]
  exact backup_copies_files n t.s0

/-- **The copy opens like the original**: `Open` depends on the files only. -/
theorem C18_copy_opens_like_the_original (o : Opts) (original copy : List File) (h : copy = original) :
    openDB o copy = openDB o original := by rw [h]

/-- non-vacuity: a backup of a two-file state, run alone -/
example : ((run (backupProg 2).steps { files := [{ fid := 0, recs := [] }, { fid := 1, recs := [] }] }).2.filterMap id).map (·.fid) = [0, 1] := by
  rw [backup_copies_files]; decide

/-- **regenerated premise of the theorems above.** `backupProg` models `Backup` as one read-mode transaction
whose steps copy the files. That shape is read off the source on every run: the body of `DB.Backup` is the call
of `db.View` and nothing else, and the function it passes calls `filesystem.CopyDir` only. A Backup that reads
or copies anything before taking (or after releasing) the read lock breaks this obligation. -/
theorem C18_backup_is_one_read_transaction :
    NutsGen.F.backupShape = (["DB.View"], [], ["filesystem.CopyDir"]) := NutsProofs.Facts.backup_under_read_lock

end NutsProofs.C18
