/-
  C12 — Failed, rolled-back and read-only transactions have no effect.
-/
import Nuts.Model.Tx
import NutsProofs.Props.C04
import NutsProofs.Pins.Commit
import NutsProofs.Pins.Closed
import NutsProofs.Lemmas.ReopenAll
import NutsProofs.Pins.TxApi
import NutsProofs.Pins.TxApiList
import NutsProofs.Pins.TxApiSet
import NutsProofs.Pins.TxApiZset
namespace NutsProofs.C12
open Nuts Nuts.Model Nuts.Model.DB NutsProofs.C04

/-- A commit that fails at its first record (entry larger than the segment) changes nothing at all. -/
theorem commit_oversize_first (s : State) (r : Rec) (rest : List Rec) (h : r.size > s.opt.seg) :
    commit s (r :: rest) = (s, .err) := by
  simp [commit, commitLoop, h]

/-- A read-only transaction cannot append a record, whatever the operation is. -/
theorem txPut_readonly (t : Tx) (r : Rec) (h : t.writable = false) : txPut t r = (t, .err) := by
  unfold txPut; split
  · rfl
  · simp [h]

theorem txPut_closed (t : Tx) (r : Rec) (h : t.closed = true) : txPut t r = (t, .err) := by
  simp [txPut, h]

theorem txPutAll_readonly (t : Tx) (mk : Bytes → Rec) (vs : List Bytes) (h : t.writable = false) :
    (txPutAll t mk vs).1 = t := by
  cases vs with
  | nil => rfl
  | cons v rest => simp [txPutAll, txPut_readonly t (mk v) h]

/-- the write loops, however far they get, leave alone every bucket that no key/value record of the transaction
names (the other records are only applied after the loop): the failing half of `C04_frame_ram` -/
theorem loops_view (recs : List Rec) (b : Bytes) (h : ∀ r ∈ recs, r.ds = dsKV → b ≠ r.bucket) (s : State) :
    (∀ fa, view (commitLoopF s recs fa).1 b = view s b) ∧ (∀ i, view (commitLoopS s recs i).1 b = view s b) := by
  have hw : ∀ s' r l, r ∈ recs → view s' b = view s b → view (writeRec s' r l) b = view s b :=
    fun s' r l hr hs => (writeRec_view s' r l b (h r hr)).trans hs
  have hp : ∀ s' r, view s' b = view s b → view (preRotate s' r) b = view s b :=
    fun s' r hs => (preRotate_view s' r b).trans hs
  exact ⟨fun fa => LogCommit.commitLoopF_inv _ recs hw hp s fa rfl,
    fun i => LogCommit.commitLoopS_inv _ recs hw hp (fun _ _ hs => hs) s i rfl⟩

/-- **C12 (in process, structure records).** When Commit fails inside its write loop and the
transaction holds list/set/sorted-set records only, no index of any bucket has changed: those records
are applied only after the loop has completed. -/
theorem C12_failed_commit_structs_no_effect (s : State) (recs : List Rec) (b : Bytes)
    (hk : ∀ r ∈ recs, r.ds ≠ dsKV) (hfail : (commit s recs).2 = .err) :
    view (commit s recs).1 b = view s b := by
  rw [LogCommit.commit_finish] at hfail ⊢
  split at hfail
  · cases hfail
  · rw [if_neg ‹_›, (LogCommit.finish_err _ _ hfail).2, ← LogCommit.commitLoopF_none]
    exact (loops_view recs b (fun r hr hkv => absurd hkv (hk r hr)) s).1 none

/-! ### injected write errors (the `WriteAt` of record `i` returns an error, nothing reaches the file) -/

theorem commitF_none (s : State) (recs : List Rec) : commitF s recs none = commit s recs := by
  simp [commitF, commit, LogCommit.commitLoopF_none]

/-- **C12 (I/O error at the first write).** When the very first `WriteAt` of a commit fails, Commit returns
an error and the database is as before, except that the rotation which preceded the write may have
created a new, empty active file: every index of every bucket, the set of committed transaction ids and
the records of every existing data file are unchanged (so reads are unchanged in process and after reopen). -/
theorem C12_write_error_first_record (s : State) (r : Rec) (rest : List Rec) (hfit : ¬ r.size > s.opt.seg) :
    commitF s (r :: rest) (some 0) = (preRotate s r, .err) ∧
    (∀ b, view (preRotate s r) b = view s b) ∧
    (preRotate s r).committed = s.committed ∧
    (∀ f ∈ s.files, f ∈ (preRotate s r).files) ∧
    (∀ f ∈ (preRotate s r).files, f ∈ s.files ∨ f.recs = []) := by
  refine ⟨by simp [commitF, commitLoopF, hfit], fun b => preRotate_view s r b, Reopen.preRotate_committed s r, ?_, ?_⟩
  · intro f hf
    unfold preRotate rotate
    split
    · exact mem_fileEnsure_of_mem _ _ _ hf
    · exact hf
  · intro f hf
    unfold preRotate rotate at hf
    split at hf
    · exact mem_fileEnsure _ _ _ hf
    · left; exact hf

/-- **C12 (I/O error, structure records).** When a write fails at any position of a transaction that holds
list/set/sorted-set records only, no index of any bucket has changed. -/
theorem C12_write_error_structs_no_effect (s : State) (recs : List Rec) (fa : Option Nat) (b : Bytes)
    (hk : ∀ r ∈ recs, r.ds ≠ dsKV) (hfail : (commitF s recs fa).2 = .err) :
    view (commitF s recs fa).1 b = view s b := by
  rw [LogCommit.commitF_finish] at hfail ⊢
  split at hfail
  · cases hfail
  · rw [if_neg ‹_›, (LogCommit.finish_err _ _ hfail).2]
    exact (loops_view recs b (fun r hr hkv => absurd hkv (hk r hr)) s).1 fa

/-- the hypotheses are satisfiable: a two-record list transaction whose second write fails -/
example : (commitF (openDB { seg := 200 } []).1
    [{ (mkRec [97] [107] [48] flagRPush dsList) with txid := 7 }, { (mkRec [97] [107] [49] flagRPush dsList) with txid := 7 }] (some 1)).2 = .err := by
  decide

/-- Witness of finding D-COMMIT-PARTIAL: `k = v0` is committed; the transaction `[put k v1, put big]`
fails at its second record, yet afterwards `Get k` no longer finds `v0` and `GetAll` returns the
uncommitted `v1`. -/
def w0 : State := (commit (openDB { seg := 100 } []).1
  [{ (mkRec [97] [107] [48] flagSet dsKV) with txid := 1 }]).1

def wFail := commit w0 [{ (mkRec [97] [107] [49] flagSet dsKV) with txid := 2 },
                        { (mkRec [97] [108] (List.replicate 100 66) flagSet dsKV) with txid := 2 }]

theorem C12_witness_partial_index :
    wFail.2 = .err ∧ get w0 [97] [107] 0 = .ok (some { (mkRec [97] [107] [48] flagSet dsKV) with txid := 1, status := 1 }) ∧
    get wFail.1 [97] [107] 0 = .err ∧
    (getAll wFail.1 [97] 0).map (fun l => l.map fun o => o.map (·.value)) = .ok [some [49]] := by
  decide

/-- regenerated facts used above: the oversize test is the first thing the loop does to a record, and
every exported Tx method except the listed ones detects a finished transaction before touching `tx.db` -/
theorem C12_size_test_first :
    NutsGen.F.commitLoop.head? = some ("return", "entrySize > tx.db.opt.SegmentSize", "return ErrKeyAndValSize") :=
  Facts.commit_size_tests.1

theorem C12_closed_checks :
    (NutsGen.F.closedChecks.filter (fun p => !p.2)).map (·.1) = Facts.closedExceptions := Facts.closed_checks_ok

/-! ### a failed Commit after a reopen

In the running process a Commit that fails at its `i`-th record (`i ≥ 1`) has already written and — key/value
records — indexed the records before it (finding D-COMMIT-PARTIAL, witness above). On disk those records carry
no commit mark, so recovery ignores them: after a reopen the failed transaction has no effect in any structure. -/

theorem commitLoop_fail_prefix (pre : List Rec) (big : Rec) (post : List Rec) (s : State)
    (hpre : ∀ r ∈ pre, ¬ r.size > s.opt.seg) (hbig : big.size > s.opt.seg) :
    commitLoop s (pre ++ big :: post) = (pre.foldl (fun s r => writeRec s r false) s, false) := by
  induction pre generalizing s with
  | nil => simp [commitLoop, hbig]
  | cons r rest ih =>
    have hr := hpre r (by simp)
    have hne : (rest ++ big :: post).isEmpty = false := by cases rest <;> rfl
    simp only [List.cons_append, commitLoop, hr, if_false, hne, List.foldl_cons]
    exact ih (writeRec s r false) (fun q hq => by rw [LogCommit.writeRec_opt]; exact hpre q (by simp [hq])) (by rw [LogCommit.writeRec_opt]; exact hbig)

open NutsProofs.Reopen NutsProofs.ReopenAll in
/-- **C12 (a failed Commit, after reopen; all structures, key+value mode, every history).** After any history
of successfully committed transactions (any structures, reopens anywhere), a transaction with a fresh id whose
records `pre` fit but whose next record is larger than the segment size is committed: `Commit` returns an error,
and after closing and reopening in key+value mode the key/value index, the lists, the sets, the sorted sets and
the committed ids are exactly those before the transaction — whatever `pre` wrote to the files. -/
theorem C12_failed_commit_invisible_after_reopen (opt0 : Opts) (ops : List OpA) (hok : OpsOkA (openDB opt0 []).1 ops)
    (pre : List Rec) (big : Rec) (post : List Rec) (tid : Nat)
    (hpre : ∀ r ∈ pre, ¬ r.size > (ops.foldl stepA (openDB opt0 []).1).opt.seg)
    (hbig : big.size > (ops.foldl stepA (openDB opt0 []).1).opt.seg)
    (ht : ∀ r ∈ pre ++ big :: post, r.txid = tid ∧ r.status = 0)
    (hfresh : ∀ x ∈ allRecs (ops.foldl stepA (openDB opt0 []).1).files, x.1.txid ≠ tid)
    (opt : Opts) (hm : opt.mode = 0) :
    let s := ops.foldl stepA (openDB opt0 []).1
    let sf := (commit s (pre ++ big :: post)).1
    (commit s (pre ++ big :: post)).2 = .err ∧
    (openDB opt sf.files).2 = .ok () ∧ (openDB opt sf.files).1.kv = normKV s.kv ∧
    (openDB opt sf.files).1.lists = s.lists ∧ (openDB opt sf.files).1.sets = s.sets ∧
    (openDB opt sf.files).1.zsets = s.zsets ∧
    (∀ id, id ∈ (openDB opt sf.files).1.committed ↔ id ∈ s.committed) := by
  intro s sf
  have hinv : AllInv s := allInv_reached opt0 ops hok
  have hcommit : commit s (pre ++ big :: post) = (crashAfterA s (pre ++ big :: post) pre.length, .err) := by
    rw [LogCommit.commit_finish, if_neg (by cases pre <;> simp), commitLoop_fail_prefix pre big post s hpre hbig, LogCommit.finish_false _ _ rfl]
    simp [crashAfterA]
  have hsf : sf = crashAfterA s (pre ++ big :: post) pre.length := congrArg Prod.fst hcommit
  obtain ⟨h1, h2, h3, h4⟩ := crash_in_commit_any s hinv (pre ++ big :: post) tid pre.length ht hfresh opt hm
  rw [← hsf] at h1 h2 h3 h4
  exact ⟨by rw [hcommit], h1, h2, congrArg SV.lists h3, congrArg SV.sets h3, congrArg SV.zsets h3, h4⟩

/-! ### A `Sync` error inside `Commit` (`commitS`; injected by the harness as `sfault`) -/

/-- **C12 (`Sync` error, structure records).** When the `Sync` after any record of a transaction that holds
list/set/sorted-set records only fails, `Commit` returns the error and no index of any bucket has changed. -/
theorem C12_sync_error_structs_no_effect (s : State) (recs : List Rec) (i : Nat) (b : Bytes)
    (hk : ∀ r ∈ recs, r.ds ≠ dsKV) (hfail : (commitS s recs i).2 = .err) :
    view (commitS s recs i).1 b = view s b := by
  rw [LogCommit.commitS_finish] at hfail ⊢
  split at hfail
  · cases hfail
  · rw [if_neg ‹_›, (LogCommit.finish_err _ _ hfail).2]
    exact (loops_view recs b (fun r hr hkv => absurd hkv (hk r hr)) s).2 i

open NutsProofs.ReopenAll in
/-- what a failing `Sync` after record `i` (short of the last) leaves in the files is what a crash after `i+1`
record writes leaves there -/
theorem commitLoopS_files (recs : List Rec) (s : State) (i : Nat)
    (hfit : ∀ r ∈ recs, ¬ r.size > s.opt.seg) (hi : i + 1 < recs.length) :
    (commitLoopS s recs i).1.files = (crashAfterA s recs (i + 1)).files ∧ (commitLoopS s recs i).2 = false := by
  induction recs generalizing s i with
  | nil => simp at hi
  | cons r rest ih =>
    have hr := hfit r (by simp)
    have hne : rest.isEmpty = false := by
      cases rest with
      | nil => simp at hi
      | cons _ _ => rfl
    cases i with
    | zero =>
      simp only [commitLoopS, hr, if_false, hne, Bool.not_false, Bool.and_true, beq_self_eq_true, if_true]
      refine ⟨?_, trivial⟩
      unfold crashAfterA
      simp only [List.take_succ_cons, List.take_zero, List.foldl_cons, List.foldl_nil]
      rw [LogCommit.writeRec_eq]
      rfl
    | succ k =>
      have hk : (k + 1 == 0) = false := by simp
      simp only [commitLoopS, hr, if_false, hk, Bool.false_and, Bool.false_eq_true, hne, Nat.add_sub_cancel]
      have h := ih (writeRec s r false) k
        (fun q hq => by rw [LogCommit.writeRec_opt]; exact hfit q (by simp [hq]))
        (by simp only [List.length_cons] at hi; omega)
      unfold crashAfterA at h ⊢
      simpa using h

open NutsProofs.Reopen NutsProofs.ReopenAll in
/-- **C12 (a `Sync` error inside Commit, after reopen; all structures, key+value mode, every history).** After
any history of successfully committed transactions (any structures, reopens anywhere), let the `Sync` that
follows the write of record `i` of a transaction with a fresh id fail, `i` short of the last record (whose
outcome the property leaves in doubt). `Commit` returns an error, and after closing and reopening in key+value
mode the key/value index, the lists, the sets, the sorted sets and the committed ids are exactly those before
the transaction — although records `0 … i` are in the files. -/
theorem C12_sync_error_invisible_after_reopen (opt0 : Opts) (ops : List OpA) (hok : OpsOkA (openDB opt0 []).1 ops)
    (t : List Rec) (tid i : Nat)
    (hfit : ∀ r ∈ t, ¬ r.size > (ops.foldl stepA (openDB opt0 []).1).opt.seg)
    (hi : i + 1 < t.length)
    (ht : ∀ r ∈ t, r.txid = tid ∧ r.status = 0)
    (hfresh : ∀ x ∈ allRecs (ops.foldl stepA (openDB opt0 []).1).files, x.1.txid ≠ tid)
    (opt : Opts) (hm : opt.mode = 0) :
    let s := ops.foldl stepA (openDB opt0 []).1
    let sf := (commitS s t i).1
    (commitS s t i).2 = .err ∧
    (openDB opt sf.files).2 = .ok () ∧ (openDB opt sf.files).1.kv = normKV s.kv ∧
    (openDB opt sf.files).1.lists = s.lists ∧ (openDB opt sf.files).1.sets = s.sets ∧
    (openDB opt sf.files).1.zsets = s.zsets ∧
    (∀ id, id ∈ (openDB opt sf.files).1.committed ↔ id ∈ s.committed) := by
  intro s sf
  have hinv : AllInv s := allInv_reached opt0 ops hok
  obtain ⟨hfiles, hfalse⟩ := commitLoopS_files t s i hfit hi
  have hcommit : commitS s t i = ((commitLoopS s t i).1, .err) := by
    rw [LogCommit.commitS_finish, if_neg (by cases t <;> simp at hi ⊢), LogCommit.finish_false _ _ hfalse]
  have hsf : sf.files = (crashAfterA s t (i + 1)).files := by
    show (commitS s t i).1.files = _
    rw [hcommit]; exact hfiles
  obtain ⟨h1, h2, h3, h4⟩ := crash_in_commit_any s hinv t tid (i + 1) ht hfresh opt hm
  rw [← hsf] at h1 h2 h3 h4
  exact ⟨by rw [hcommit], h1, h2, congrArg SV.lists h3, congrArg SV.sets h3, congrArg SV.zsets h3, h4⟩

/-- the hypotheses are met: a put and a set insertion with a fresh id after one committed put, the `Sync` after
the first record fails — `Commit` returns the error -/
example : (commitS (commit (openDB { seg := 200 } []).1 [{ (mkRec [97] [107] [48] flagSet dsKV) with txid := 1 }]).1
    [{ (mkRec [97] [108] [49] flagSet dsKV) with txid := 7 }, { (mkRec [97] [107] [49] flagSet dsSet) with txid := 7 }] 0).2 = .err := by
  decide

/-- **regenerated tie.** On this run, every call of the transactional API: what it checks before queuing and what it queues — nothing else is done before `Commit` — are the source lines `Nuts.Model.Tx` was written from (`NutsProofs.Facts.expectedTxApiCore` / `List` / `Set` / `Zset`). -/
theorem C12_tx_api_regenerated :
    NutsProofs.Facts.txApiOfCore = NutsProofs.Facts.expectedTxApiCore ∧
    NutsProofs.Facts.txApiOfList = NutsProofs.Facts.expectedTxApiList ∧
    NutsProofs.Facts.txApiOfSet = NutsProofs.Facts.expectedTxApiSet ∧
    NutsProofs.Facts.txApiOfZset = NutsProofs.Facts.expectedTxApiZset :=
  ⟨NutsProofs.Facts.tx_api_core_ok, NutsProofs.Facts.tx_api_list_ok, NutsProofs.Facts.tx_api_set_ok, NutsProofs.Facts.tx_api_zset_ok⟩

end NutsProofs.C12
