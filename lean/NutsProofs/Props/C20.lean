/-
  Property C20 — no argument or state makes an API call panic.

  What a Lean model can carry of this property, and what it cannot:
   * **proved, for every machine integer** (the kernels are regenerated from /repo's SSA on every run, so an
     edit that lets an out-of-range slice or index through breaks these proofs):
       - `LRange` / `LTrim` never slice out of bounds (`C20_lrange_no_panic`, `C20_ltrim_no_panic`);
       - `LSet` stores only inside the slice (`C20_lset_no_panic`);
       - the `Tx.LRem` count guard admits a count only when |count| ≤ size, `math.MinInt64` included
         (`C20_tx_lrem_guard`), and `LRem` then never runs past its slice (`C20_lrem_no_panic`);
       - the `Tx.LSet` guard admits an index only inside the list (`C20_tx_lset_guard`);
       - `sanitizeIndexes` returns ranks ≥ 1 for every pair of arguments (`C20_sanitize_positive`);
       - `MMapRWManager.ReadAt/WriteAt` slice the mapping only at 0 ≤ off < len (`C20_mmap_no_panic`);
       - integer divisions have non-zero divisors (`C20_split_index`);
   * **proved over the regenerated facts**: every exported `Tx` method except `Commit`/`Rollback` detects a
     finished transaction before touching `tx.db` (`C20_closed_checks`); in the model a finished
     transaction answers every call with an error (`C20_finished_tx_*`);
   * **searched, not proved** (suite `api-fuzz` and the panic outcome of every other suite): panics the Go
     runtime can raise in code the model abstracts (nil maps and files, NaN ordering inside the skiplist,
     regular expressions). The known ones are listed findings (D-PANIC-*).
-/
import Nuts.Model.Tx
import NutsProofs.Props.C05
import NutsProofs.Pins.Closed
namespace NutsProofs.C20
open Nuts Nuts.Model Nuts.Model.DB Nuts.Spec NutsProofs.Kernels

/-! ### lists -/

/-- `LRange` returns or reports an error for every pair of machine integers; it never panics. -/
theorem C20_lrange_no_panic (l : List Bytes) (missing : Bool) (s e : Int) (hn : (l.length : Int) < 4611686018427387904)
    (hs : inRange64 s) (he : inRange64 e) : ListDS.lrangeL l missing s e ≠ .panic := by
  cases missing
  · have := C05.lrange_spec l s e hn hs he
    intro hp
    rw [hp] at this
    exact this
  · rw [C05.lrangeL_missing]
    exact fun hp => nomatch hp

/-- `LTrim` is `LRange` followed by a store: no panic either. -/
theorem C20_ltrim_no_panic (st : ListDS.St) (k : Bytes) (s e : Int)
    (hn : ∀ l, ListDS.get? st k = some l → (l.length : Int) < 4611686018427387904)
    (hs : inRange64 s) (he : inRange64 e) : (ListDS.ltrim st k s e).2 ≠ .panic := by
  unfold ListDS.ltrim
  cases hg : ListDS.get? st k with
  | none => simp
  | some l =>
    simp only
    have := C20_lrange_no_panic l false s e (hn l hg) hs he
    cases hr : ListDS.lrangeL l false s e <;> simp_all

/-- `LSet`: the store happens only for 0 ≤ index < len — for every machine integer. -/
theorem C20_lset_no_panic (st : ListDS.St) (k : Bytes) (i : Int) (v : Bytes) : (ListDS.lset st k i v).2 ≠ .panic := by
  have := C05.lset_spec st k i v
  split at this
  · rw [this.1]; exact fun h => nomatch h
  · rw [this]; exact fun h => nomatch h

/-- The count guard of `Tx.LRem`, for every machine integer including `math.MinInt64` (whose negation
wraps): the call proceeds (reaches its `slice` event) only when |count| ≤ size. -/
theorem C20_tx_lrem_guard (count : Int) (size : Nat) (hc : inRange64 count) (hn : (size : Int) < 4611686018427387904)
    (e1 e2 : Bool) (x : Int) :
    (NutsGen.K.tx_LRem.run count size e1 e2 x).events ≠ [] → count ≤ size ∧ -(size : Int) ≤ count := by
  unfold NutsGen.K.tx_LRem.run
  intro h
  obtain ⟨ev, h⟩ := List.exists_mem_of_ne_nil _ h
  obtain ⟨-, h⟩ := mem_events_guard h
  obtain ⟨h1, h⟩ := mem_events_guard h
  obtain ⟨h2, -⟩ := mem_events_guard h
  -- `-size` does not wrap
  rw [wrap64_of_inRange (by unfold inRange64; omega)] at h2
  exact ⟨Int.not_lt.mp h1, Int.not_lt.mp h2⟩

/-- `LRem` with an admitted count never runs past its slice. -/
theorem C20_lremNum_no_panic (l : List Bytes) (count : Int) (v : Bytes) : ListDS.lremNumL l count v ≠ .panic := by
  unfold ListDS.lremNumL
  split <;> simp

/-- The index guard of `Tx.LSet`: the record is queued only for 0 ≤ index < size. -/
theorem C20_tx_lset_guard (idx : Int) (size : Nat) (e1 e2 e3 : Bool) :
    (NutsGen.K.tx_LSet.run idx e1 e2 e3 size).events ≠ [] → 0 ≤ idx ∧ idx < size := by
  unfold NutsGen.K.tx_LSet.run
  intro h
  obtain ⟨ev, h⟩ := List.exists_mem_of_ne_nil _ h
  obtain ⟨-, h⟩ := mem_events_guard h
  obtain ⟨-, h⟩ := mem_events_guard' h
  obtain ⟨-, h⟩ := mem_events_guard' h
  obtain ⟨h1, h⟩ := mem_events_guard h
  obtain ⟨h2, -⟩ := mem_events_guard h
  exact ⟨Int.not_lt.mp h1, Int.not_le.mp h2⟩

/-! ### sorted sets, mmap, B+ tree arithmetic -/

/-- `sanitizeIndexes` yields ranks ≥ 1 whatever the arguments (so `GetByRankRange` never walks before the
first node); with both results inside 1 … 2^63-1. -/
theorem C20_sanitize_positive (a b : Int) (len : Nat) (ha : inRange64 a) (hb : inRange64 b)
    (hn : (len : Int) < 4611686018427387904) :
    ∃ x y, (NutsGen.K.zset_sanitizeIndexes.run a b len len).vals = [x, y] ∧ 1 ≤ x ∧ 1 ≤ y :=
  Kernels.sanitize_vals_pos a b len len

/-- `MMapRWManager.ReadAt` / `WriteAt` slice the mapping `m[off:]` only with 0 ≤ off < len(m). -/
theorem C20_mmap_no_panic (off : Int) (len : Nat) (hoff : inRange64 off) (hl : (len : Int) ≤ 9223372036854775807)
    (nilMap : Bool) (lb : Int) (n : Int) (hookErr : Bool) :
    (∀ lo hi, KEv.slice 0 lo hi ∈ (NutsGen.K.mmap_ReadAt.run off nilMap lb len len n).events → lo = some off ∧ 0 ≤ off ∧ off < len) ∧
    (∀ lo hi, KEv.slice 0 lo hi ∈ (NutsGen.K.mmap_WriteAt.run off nilMap len hookErr n).events → lo = some off ∧ 0 ≤ off ∧ off < len) := by
  unfold NutsGen.K.mmap_ReadAt.run NutsGen.K.mmap_WriteAt.run
  rw [wrap64_of_inRange ⟨by omega, hl⟩]
  -- the slice is behind the tests `off ≥ len(m)` and `off < 0`, on every path that reaches it
  have fin : ∀ {lo hi : Option Int}, ¬ off ≥ len → ¬ off < 0 → KEv.slice 0 lo hi ∈ [KEv.slice 0 (some off) none] →
      lo = some off ∧ 0 ≤ off ∧ off < len :=
    fun h1 h2 h => ⟨(KEv.slice.inj (List.mem_singleton.mp h)).2.1, Int.not_lt.mp h2, Int.not_le.mp h1⟩
  constructor <;> intro lo hi h
  · obtain ⟨-, h⟩ := mem_events_guard h
    -- `len(b) == 0` only adds the exit for a read at the very end
    rcases mem_events_ite h with ⟨-, h⟩ | ⟨-, h⟩
    · obtain ⟨-, h⟩ := mem_events_guard h
      obtain ⟨h1, h⟩ := mem_events_guard h
      obtain ⟨h2, h⟩ := mem_events_guard h
      exact fin h1 h2 h
    · obtain ⟨h1, h⟩ := mem_events_guard h
      obtain ⟨h2, h⟩ := mem_events_guard h
      exact fin h1 h2 h
  · obtain ⟨-, h⟩ := mem_events_guard h
    obtain ⟨h1, h⟩ := mem_events_guard h
    obtain ⟨h2, h⟩ := mem_events_guard h
    obtain ⟨-, h⟩ := mem_events_guard h
    exact fin h1 h2 h

/-- the only integer divisions of the B+ tree code divide by 2 -/
theorem C20_split_index (n : Int) : ∀ s d, KEv.div s d ∈ (NutsGen.K.getSplitIndex.run n).events → d ≠ 0 := by
  unfold NutsGen.K.getSplitIndex.run
  intro s d h
  split at h <;> simp at h <;> rcases h with ⟨_, rfl⟩ | ⟨_, rfl⟩ <;> decide

/-! ### finished transactions -/

/-- regenerated fact: every exported `Tx` method except `Commit`/`Rollback` (which test `tx.db == nil`
themselves) checks for a finished transaction before it dereferences `tx.db` (the three `Find*OnDisk`
helpers did not: finding D-PANIC-ONDISK, fixed) -/
theorem C20_closed_checks :
    (NutsGen.F.closedChecks.filter (fun p => !p.2)).map (·.1) = ["Commit", "Rollback"] :=
  Facts.closed_checks_ok

/-- in the model, a finished transaction answers every mutating call with an error and queues nothing -/
theorem C20_finished_tx_put (t : Tx) (r : Rec) (h : t.closed = true) : txPut t r = (t, .err) := by
  simp [txPut, h]

theorem C20_finished_tx_reads (s : State) (t : Tx) (b k : Bytes) (a e : Int) (h : t.closed = true) :
    txLRange s t b k a e = .err ∧ txLSize s t b k = .err ∧ txPeek s t b k true = .err ∧ txPeek s t b k false = .err := by
  simp [txLRange, txLSize, txPeek, h]

theorem C20_finished_tx_pops (s : State) (t : Tx) (b k : Bytes) (ts : Nat) (left : Bool) (h : t.closed = true) :
    (txPop s t b k ts left).2 = .err ∧ (txZPop s t b ts left).2 = .err ∧ (txSPop s t b k none ts).2 = .err := by
  simp [txPop, txPeek, txZPop, txSPop, h]

/-! ### the statements say something: concrete instances -/

example : ListDS.lrangeL [[1], [2], [3]] false (-9223372036854775808) 9223372036854775807 = .ok [[1], [2], [3]] := by decide
example : (NutsGen.K.tx_LRem.run (-9223372036854775808) 2 false false 0).events = [] := by decide
example : (NutsGen.K.zset_sanitizeIndexes.run (-9223372036854775808) 0 3 3).vals = [1, 1] := by decide

/-- `List.LRem` never panics: for every count (every machine integer, `MinInt64` included) and every list
shorter than 2^62 the copy loop stays inside its slice — from `LRem.lremL_spec`, which says what it returns -/
theorem C20_lrem_no_panic (l : List Bytes) (count : Int) (v : Bytes) (hn : (l.length : Int) < 4611686018427387904) :
    ListDS.lremL l count v ≠ .panic := by
  rw [LRem.lremL_spec l count v hn]
  split <;> simp

end NutsProofs.C20
