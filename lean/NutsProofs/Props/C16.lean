/-
  C16 — A crash during Merge loses or changes nothing.
  Record-level core for key-addressed records: replaying a KV record a second time (the rewritten
  copy next to the not yet removed original) does not change the index content for its key. Over every key/value
  history, key+value mode: a crash between two files of Merge (`C16_crash_between_files_of_merge`) or inside the
  handling of one (`C16_crash_inside_file_of_merge`) leaves, after reopening, the reads of before the Merge.
  Witnesses of what fails for the other structures: `C16_witness_push_not_idempotent`, `C16_witness_zpos`.
-/
import Nuts.Model.Tx
import NutsProofs.Lemmas.Assoc
import NutsProofs.Lemmas.MergeReopen
import NutsProofs.Lemmas.MergeCrash
import NutsProofs.Pins.Merge
namespace NutsProofs.C16
open Nuts Nuts.Model Nuts.Model.DB

theorem upsert_upsert {α} (m : Assoc α) (k : Bytes) (v w : α) : upsert (upsert m k v) k w = upsert m k w := by
  induction m with
  | nil => simp [upsert, bcmp_refl]
  | cons p rest ih =>
    obtain ⟨k0, v0⟩ := p
    simp only [upsert]
    cases h : bcmp k k0 with
    | lt => simp [upsert, bcmp_refl]
    | eq => simp [upsert, bcmp_refl]
    | gt => simp [upsert, h, ih]

/-- **C16 (KV, idempotence).** Applying the rewritten copy of a KV record after the original leaves
the same value for the key as the copy alone: a crash that leaves both the old segment and the new
file on disk recovers the same key/value content. -/
theorem applyKV_twice_value (s : State) (r : Rec) (f1 p1 f2 p2 : Nat) :
    ((aget? (applyKV (applyKV s r f1 p1) r f2 p2).kv r.bucket).bind (aget? · r.key)).map (·.r) =
    ((aget? (applyKV s r f2 p2).kv r.bucket).bind (aget? · r.key)).map (·.r) := by
  simp [applyKV, aget_aput_self, aget_upsert_self]

theorem sadd_idem (m : SetDS.St) (k : Bytes) (x : Bytes) :
    SetDS.get? (SetDS.sadd (SetDS.sadd m k [x]) k [x]) k = SetDS.get? (SetDS.sadd m k [x]) k := by
  have hself : ∀ (s : SetDS.St) (v : List Bytes), SetDS.get? (SetDS.put s k v) k = some v := by
    intro s v
    induction s with
    | nil => simp [SetDS.put, SetDS.get?]
    | cons p rest ih => obtain ⟨k', v'⟩ := p; by_cases h : k' = k <;> simp [SetDS.put, SetDS.get?, h, ih]
  simp only [SetDS.sadd, hself, Option.getD_some, List.foldl_cons, List.foldl_nil]
  congr 1
  unfold SetDS.insert
  split <;> simp

/-- Witness for lists (finding D-MERGE): a push replayed twice is NOT idempotent. -/
theorem C16_witness_push_not_idempotent :
    (ListDS.rpush (ListDS.rpush [] [107] [[1]]).1 [107] [[1]]).1 ≠ (ListDS.rpush [] [107] [[1]]).1 := by decide

/-! ### a crash between two files of Merge, key/value data

`Merge` works through the data files in ascending order: for each, the rewrite transaction and then the removal
of the file. `merge.go now s (fids.take k) txids` is the state after the first `k` files. The loop invariant
(`MergeKV.go_spec`) holds for every prefix of the file list, and a state with the invariant reopens to the same
live contents (`MergeKV.reads_after_reopen`). -/

open NutsProofs.Reopen NutsProofs.KVRefine NutsProofs.MergeKV in
/-- **C16 (key/value data, crash between two files of Merge, key+value mode, every history).** After any
history of key/value transactions and reopens (records fitting the segment size in force), Merge starts at
clock value `now` and the process dies after it has completely handled the first `k` data files — any `k`,
also all of them — i.e. after a removal and before the next rewrite. Reopening in key+value mode succeeds, and
`Get`, `GetAll`, `RangeScan`, and `PrefixScan` / `PrefixSearchScan` without offset and limit return at every
time `t ≥ now` what they returned before Merge started. Crash points *inside* the handling of one file (while
the rewrite transaction is being written; after it committed and before the old file is removed) are not
covered by this theorem: the suite `db-mcrash` visits them (open finding D-MERGE-ZSET-STALE is of that kind,
for sorted sets). -/
theorem C16_crash_between_files_of_merge (opt0 : Opts) (ops : List Op) (hok : OpsOk (openDB opt0 []).1 ops)
    (hrec : OpsRecOk ops)
    (hsz : ∀ x ∈ allRecs (ops.foldl stepOp (openDB opt0 []).1).files, ¬ x.1.size > (ops.foldl stepOp (openDB opt0 []).1).opt.seg)
    (hm : (ops.foldl stepOp (openDB opt0 []).1).opt.mode = 0)
    (now : Nat) (txids : List Nat) (k : Nat)
    (hl : (merge.go now (ops.foldl stepOp (openDB opt0 []).1)
            (((ops.foldl stepOp (openDB opt0 []).1).files.map (·.fid)).take k) txids).1.activeUnlinked = false)
    (opt : Opts) (hmo : opt.mode = 0) (t : Nat) (hle : now ≤ t) (ht : t < 2 ^ 64) (b : Bytes) :
    let s := ops.foldl stepOp (openDB opt0 []).1
    let sk := (merge.go now s ((s.files.map (·.fid)).take k) txids).1
    let s2 := (openDB opt sk.files).1
    (openDB opt sk.files).2 = .ok () ∧
    (∀ key, (DB.get s2 b key t).map (Option.map (·.value)) = (DB.get s b key t).map (Option.map (·.value))) ∧
    ((getAll s2 b t).map pairsOf = (getAll s b t).map pairsOf) ∧
    (∀ st en, (rangeScan s2 b st en t).map pairsOf = (rangeScan s b st en t).map pairsOf) ∧
    (∀ pre mt, (prefixScan s2 b pre 0 (-1) t mt).map pairsOf = (prefixScan s b pre 0 (-1) t mt).map pairsOf) := by
  intro s sk s2
  have hminv := minv_of_ops opt0 ops hok hrec hsz now
  obtain ⟨_, hminvk, hvis, _, hopt⟩ := go_take_spec now s txids hminv k hl
  exact reads_after_moves_reopen s sk now hminv hminvk hm hopt hvis opt hmo t hle ht b

open NutsProofs.Reopen NutsProofs.KVRefine NutsProofs.MergeKV in
/-- **C16 (key/value data, crash inside the handling of one file, key+value mode, every history).** Merge has
handled the first `k` files and works on a file `f` of what is left; `recs` are the records it selects from `f`
(`mergeSelect`), `tid` the id of its rewrite transaction. If the process dies
 * while the rewrite transaction is being written — `j` of its records, any number short of the last, are in the
   new file (and the id is not one already in the files), or
 * after the rewrite transaction has committed and before `f` is removed,
then reopening in key+value mode succeeds and the unpaged reads at every `t ≥ now` are those before Merge
started. With `C16_crash_between_files_of_merge` this covers every record-boundary crash point of Merge on
key/value data; torn records remain outside (finding D-TORN-CRC). -/
theorem C16_crash_inside_file_of_merge (opt0 : Opts) (ops : List Op) (hok : OpsOk (openDB opt0 []).1 ops)
    (hrec : OpsRecOk ops)
    (hsz : ∀ x ∈ allRecs (ops.foldl stepOp (openDB opt0 []).1).files, ¬ x.1.size > (ops.foldl stepOp (openDB opt0 []).1).opt.seg)
    (hm : (ops.foldl stepOp (openDB opt0 []).1).opt.mode = 0)
    (now : Nat) (txids : List Nat) (k : Nat)
    (hl : (merge.go now (ops.foldl stepOp (openDB opt0 []).1)
            (((ops.foldl stepOp (openDB opt0 []).1).files.map (·.fid)).take k) txids).1.activeUnlinked = false)
    (f : File)
    (hf : f ∈ (merge.go now (ops.foldl stepOp (openDB opt0 []).1)
            (((ops.foldl stepOp (openDB opt0 []).1).files.map (·.fid)).take k) txids).1.files)
    (tid : Nat) (opt : Opts) (hmo : opt.mode = 0) (t : Nat) (hle : now ≤ t) (ht : t < 2 ^ 64) (b : Bytes) :
    let s := ops.foldl stepOp (openDB opt0 []).1
    let sk := (merge.go now s ((s.files.map (·.fid)).take k) txids).1
    let recs := (f.recs.filter (isSel sk f now)).map (·.2)
    -- while the rewrite transaction is being written
    (∀ j, (∀ x ∈ allRecs sk.files, x.1.txid ≠ tid) →
      let s2 := (openDB opt (crashAfter (rotate sk) (retag tid recs) j).files).1
      (openDB opt (crashAfter (rotate sk) (retag tid recs) j).files).2 = .ok () ∧
      (∀ key, (DB.get s2 b key t).map (Option.map (·.value)) = (DB.get s b key t).map (Option.map (·.value))) ∧
      ((getAll s2 b t).map pairsOf = (getAll s b t).map pairsOf) ∧
      (∀ st en, (rangeScan s2 b st en t).map pairsOf = (rangeScan s b st en t).map pairsOf) ∧
      (∀ pre mt, (prefixScan s2 b pre 0 (-1) t mt).map pairsOf = (prefixScan s b pre 0 (-1) t mt).map pairsOf)) ∧
    -- after it committed, before the file is removed
    (recs ≠ [] →
      let s2 := (openDB opt (rewrite sk recs tid).1.files).1
      (openDB opt (rewrite sk recs tid).1.files).2 = .ok () ∧
      (∀ key, (DB.get s2 b key t).map (Option.map (·.value)) = (DB.get s b key t).map (Option.map (·.value))) ∧
      ((getAll s2 b t).map pairsOf = (getAll s b t).map pairsOf) ∧
      (∀ st en, (rangeScan s2 b st en t).map pairsOf = (rangeScan s b st en t).map pairsOf) ∧
      (∀ pre mt, (prefixScan s2 b pre 0 (-1) t mt).map pairsOf = (prefixScan s b pre 0 (-1) t mt).map pairsOf)) := by
  intro s sk recs
  have hminv := minv_of_ops opt0 ops hok hrec hsz now
  obtain ⟨_, hminvk, hvis, _, hopt⟩ := go_take_spec now s txids hminv k hl
  have hmk1 : sk.opt.mode = 0 := hopt ▸ hm
  have ha : SameReads sk s t b := reads_of_vis_minv s sk now hminv hminvk hm hmk1 hvis t ht b
  have hkvrecs : ∀ r ∈ recs, r.ds = dsKV := by
    intro r hr
    obtain ⟨p, hp, rfl⟩ := List.mem_map.mp hr
    exact (hminvk.recs _ (mem_allRecs_of sk.files f hf p (List.mem_filter.mp hp).1)).1
  refine ⟨fun j hfresh => ?_, fun hne => ?_⟩
  · obtain ⟨c0, hc⟩ := crash_in_rewrite sk now hminvk hmk1 recs hkvrecs tid hfresh j opt hmo t hle ht b
    exact ⟨c0, SameReads.trans hc ha⟩
  · obtain ⟨c0, hc⟩ := crash_after_rewrite sk now hminvk hmk1 f hf tid hne opt hmo t hle ht b
    exact ⟨c0, SameReads.trans hc ha⟩

/-! ### finding D-MERGE-ZPOS: a rank-based removal outlives the insertion it removed -/

/-- `ZAdd a` (score 2), `ZAdd b` (score 1), `ZPopMax` — one record per 60-byte segment -/
def zposState : State :=
  (commit (commit (commit (openDB { seg := 60 } []).1
    [{ (mkRec [98] [97, 124, 50] [1] flagZAdd dsZSet 0 0 2) with txid := 1 }]).1
    [{ (mkRec [98] [98, 124, 49] [1] flagZAdd dsZSet 0 0 1) with txid := 2 }]).1
    [{ (mkRec [98] [32] [] flagZPopMax dsZSet) with txid := 3 }]).1

/-- **Witness of D-MERGE-ZPOS (the property is false for sorted sets at crash points of Merge).** After the three
commits the sorted set holds `b` alone. Merge's first step selects nothing from file 0 (`ZAdd a`: `a` is no longer
a member) and removes the file; at that crash point the directory holds `ZAdd b` and `ZPopMax`, and `Open` pops
`b`: the set is empty. Implementation and model agree (`corpus/D-MERGE-ZPOS.ops`). -/
theorem C16_witness_zpos :
    zposState.files.map (·.fid) = [0, 1, 2] ∧
    (zposState.zsets.map fun p => (p.1, p.2.map (·.key))) = [([98], [[98]])] ∧
    (zposState.files.head?.map fun f => mergeSelect zposState f 0) = some (.ok []) ∧
    ((openDB { seg := 60 } (zposState.files.filter (·.fid != 0))).1.zsets.map fun p => (p.1, p.2.map (·.key))) = [([98], [])] := by
  decide +kernel

/-- **regenerated tie.** the order of the steps of `Merge` for one file — scan, select, rewrite transaction, remove — which the crash-point theorems above quantify over, is read off the source on this run (`NutsProofs.Facts.expectedMergeStmts`). -/
theorem C16_merge_statements_regenerated : NutsGen.F.mergeStmts = NutsProofs.Facts.expectedMergeStmts :=
  NutsProofs.Facts.merge_stmts_ok

end NutsProofs.C16
