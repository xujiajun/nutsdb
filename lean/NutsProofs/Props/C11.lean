/-
  C11 — With SyncEnable, committed transactions survive power loss.
  What can be proved here is the write/sync discipline of `Tx.Commit` (regenerated structure facts)
  and, at record level, that recovery from any *durable prefix* of the log is all-or-nothing per
  transaction (C10). The behaviour of fsync/msync themselves is assumed (OS).
-/
import NutsProofs.Pins.Commit
import NutsProofs.Props.C10
namespace NutsProofs.C11

/-- every record write of `Commit` is followed, before anything else happens, by a sync of the same
file whenever `SyncEnable` is set: at most the record being written is not yet durable. -/
theorem C11_sync_follows_every_write :
    (((NutsGen.F.commitLoop.dropWhile (·.1 != "write")).map (·.1)).take 4) = ["write", "return", "sync", "return"] ∧
    Facts.items "sync" = [("sync", "tx.db.opt.SyncEnable", "tx.db.ActiveFile.rwManager.Sync()")] :=
  ⟨Facts.commit_sync_follows_write.2.2.1, Facts.commit_sync_follows_write.2.1⟩

/-- the commit marker is on the last record only, so a durable prefix of a transaction's records that
lacks the last one is ignored by recovery (`Replay.uncommitted_suffix_invisible`) -/
theorem C11_marker_last_only :
    Facts.items "status" = [("status", "i == lastIndex", "entry.Meta.status = Committed")] :=
  Facts.commit_marker_last_only.1

/-- after a power loss the durable log is a prefix of the written log; dropping the not-yet-synced
suffix of an unfinished transaction changes nothing that recovery sees -/
theorem C11_durable_prefix_all_or_nothing (s : Nuts.Model.DB.State) (log extra : List C10.LogRec)
    (hst : ∀ x ∈ extra, x.1.status = 0) (hfresh : ∀ x ∈ extra, ∀ y ∈ log, y.1.txid ≠ x.1.txid) :
    Nuts.Model.DB.replay s (log ++ extra) (Nuts.Model.DB.committedIds (log ++ extra)) =
    Nuts.Model.DB.replay s log (Nuts.Model.DB.committedIds log) :=
  (Replay.uncommitted_suffix_invisible s log extra hst hfresh).2

end NutsProofs.C11
