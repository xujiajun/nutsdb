/-
  C01 — Key/value reads match an ordered map with TTL (RAM index modes).
-/
import Nuts.Model.Tx
import NutsProofs.Lemmas.Assoc
import NutsProofs.Props.C04
import NutsProofs.Lemmas.BPTreeRefine
import NutsProofs.Lemmas.KVRefine
import NutsProofs.Lemmas.Hints
import NutsProofs.Lemmas.PrefixRefine
import NutsProofs.Facts
import NutsProofs.Pins.BPT
namespace NutsProofs.C01
open Nuts Nuts.Model Nuts.Model.DB NutsProofs.Reopen

/-- every bucket's index is strictly ascending in `bytes.Compare` order -/
def KVSorted (s : State) : Prop := ∀ b m, aget? s.kv b = some m → Sorted m

theorem kvSorted_init : KVSorted ({} : State) := by
  intro b m h; simp [aget?] at h

theorem writeRec_sorted (s : State) (r : Rec) (last : Bool) (h : KVSorted s) : KVSorted (writeRec s r last) := by
  have h1 : KVRefine.KVSorted (preRotate s r).kv := by rw [preRotate_kv]; exact h
  show KVRefine.KVSorted (writeRec s r last).kv
  rw [LogCommit.writeRec_eq]
  show KVRefine.KVSorted (if r.ds = dsKV then _ else _)
  split
  · exact KVRefine.kvPut_sorted _ _ _ _ h1
  · exact h1

/-- **Order invariant**, also across a commit that fails half way. -/
theorem commit_sorted (s : State) (recs : List Rec) (h : KVSorted s) : KVSorted (commit s recs).1 :=
  LogCommit.commit_inv KVSorted recs (fun s r l _ h => writeRec_sorted s r l h)
    (fun s r h => show KVRefine.KVSorted (preRotate s r).kv by rw [preRotate_kv]; exact h)
    (fun s h => show KVRefine.KVSorted (buildIdxes s recs).1.kv by rw [(LogCommit.buildIdxes_frame recs s).2]; exact h) s h

/-- **C01 (order).** `GetAll` in key+value mode returns entries whose keys are strictly ascending. -/
theorem getAll_ascending (s : State) (hm : s.opt.mode = 0) (hs : KVSorted s) (b : Bytes) (now : Nat)
    (out : List (Option Rec)) (h : getAll s b now = .ok out) :
    ∃ sub : List (Bytes × Idx), Sorted sub ∧ out = sub.map fun p => some p.2.r := by
  rw [Reads.getAll_eq, Reads.wrapper_eq_nil s (fun i => some i.r) now (-1) _ (fun i _ => Reads.fetch_mode0 s hm i),
    Reads.cut_all, List.filter_map, List.map_map, Reads.nonEmptyOrErr_ok] at h
  split at h
  · cases h
  · exact ⟨_, List.Pairwise.filter _ (KVRefine.KVSorted.bucket hs b), (Outcome.ok.inj h).symm⟩

/-- **C01 (last write wins).** After a successful single-record commit of `Put(b, k, v)` the index of
bucket `b` maps `k` to exactly that record, and every other key of the bucket keeps its record. -/
theorem put_then_lookup (s : State) (r : Rec) (hfit : ¬ r.size > s.opt.seg) (hkv : r.ds = dsKV) :
    ((aget? (commit s [r]).1.kv r.bucket).bind (aget? · r.key)).map (·.r) = some { r with status := 1 } ∧
    ∀ k', k' ≠ r.key → (aget? (commit s [r]).1.kv r.bucket).bind (aget? · k') = (aget? s.kv r.bucket).bind (aget? · k') := by
  have hc : (commit s [r]).1.kv = kvPut s.kv { r with status := 1 } (preRotate s r).hintFid (preRotate s r).writeOff := by
    rw [LogCommit.commit_kvOnly s [r] (by simp) (by simp [commitLoop, hfit]) (by simpa using hkv)]
    show (commitLoop s [r]).1.kv = _
    rw [show commitLoop s [r] = (writeRec s r true, true) by simp [commitLoop, hfit], LogCommit.writeRec_eq]
    show (if r.ds = dsKV then _ else _) = _
    rw [if_pos hkv, preRotate_kv]
    rfl
  rw [hc, kvPut, aget_aput_self]
  refine ⟨by simp [aget_upsert_self], fun k' hk' => ?_⟩
  rw [Option.bind_some, aget_upsert_other _ _ _ _ hk']
  cases aget? s.kv r.bucket <;> rfl

example : KVSorted (commit {} [mkRec [97] [98] [1] flagSet dsKV, mkRec [97] [97] [2] flagSet dsKV]).1 :=
  commit_sorted _ _ kvSorted_init

/-! ### the index really is a B+ tree

The DB model keeps each bucket's index as a sorted association list (`upsert`, `aget?`). The code keeps it
as a B+ tree of order 8 (bptree.go); `Nuts.Model.BPTree` is that tree, insertion with the Go split rules
included, and the `bpt-ds` suite compares it with `BPTree.Insert/Find/…` node for node. The theorems below
discharge the abstraction: for every sequence of insertions the tree is well formed, its leaf chain is the
sorted list, and `Find` is the list lookup. -/

open Nuts.Model.BPTree NutsProofs.BPT in
/-- **C01 (index refinement).** After any sequence of `Insert`s into an empty B+ tree — every leaf split,
inner split and root split included — the leaf chain is exactly the `upsert` fold the DB model uses, it is
strictly ascending, and `Find` returns what `aget?` returns on it. -/
theorem C01_tree_index_refines_sorted_list (ops : List (Bytes × Idx)) (k : Bytes) :
    let t := ops.foldl (fun t p => Tree.insert t p.1 p.2) (none : Tree Idx)
    let m := ops.foldl (fun m p => upsert m p.1 p.2) ([] : Assoc Idx)
    t.toList = m ∧ Sorted m ∧ t.find k = aget? m k := by
  obtain ⟨hwf, htl⟩ := Tree.inserts_refine ops
  refine ⟨htl, ?_, ?_⟩
  · rw [← htl]; exact Tree.sorted _ hwf
  · rw [← htl]; exact Tree.find_eq_aget _ hwf k

open Nuts.Model.BPTree NutsProofs.BPT in
/-- one more `Insert` into a well-formed tree is one more `upsert` — the step form, for trees that were
not built from empty in one go (reopen rebuilds the tree in replay order) -/
theorem C01_tree_insert_step (t : Tree Idx) (h : Tree.WF t) (k : Bytes) (v : Idx) :
    (Tree.insert t k v).toList = upsert t.toList k v ∧ Tree.WF (Tree.insert t k v) :=
  Tree.insert_refines t h k v

def treeDepth {α} : Nuts.Model.BPTree.Node α → Nat
  | .leaf _ => 1
  | .inner c0 _ => treeDepth c0 + 1

/-- the theorems are about trees that do split: 40 ascending insertions make a tree of depth 3 -/
theorem C01_witness_tree_splits :
    ((((List.range 40).map fun i => ([i.toUInt8], i)).foldl
        (fun t p => Nuts.Model.BPTree.Tree.insert t p.1 p.2) (none : Nuts.Model.BPTree.Tree Nat)).map treeDepth) = some 3 := by
  decide +kernel

/-! ### reads refine the ordered map, for every history

Every state a history reaches presents the spec's map after the same puts and deletes (`Hints.reached_presents`), and
the reads of a state that presents a map are the spec's reads of it (`KVRefine.Presents.reads`). -/

open NutsProofs.KVRefine (OpsRecOk logOf_recOk)

open NutsProofs.KVRefine NutsProofs.Hints in
/-- **C01 (key+value mode, every history).** Start from the empty database; commit any sequence of
key/value write transactions (any number of Put / PutWithTimestamp / Delete records each, over any buckets,
any key and value bytes, any TTL and timestamp with `timestamp + ttl < 2^64`, any segment size, so any
number of file rotations), with reopens anywhere in between. Let `spec` be the ordered map of the
specification after the same puts and deletes. Then at every clock value below `2^64`, for every bucket:
`Get(k)` returns the value `spec` holds live for `k` and fails when there is none (absent, deleted or
expired — never a stale or foreign value); `GetAll` returns exactly the live pairs in ascending key order
(an error when there are none); `RangeScan(start, end)` exactly the live pairs with `start ≤ key ≤ end`
in ascending order (an error when `start > end` or there are none). -/
theorem C01_reads_refine_ordered_map (opt0 : Opts) (ops : List Op) (hok : OpsOk (openDB opt0 []).1 ops)
    (hrec : OpsRecOk ops) (hm : (ops.foldl stepOp (openDB opt0 []).1).opt.mode = 0)
    (now : Nat) (hn : now < 2 ^ 64) (b : Bytes) :
    let s := ops.foldl stepOp (openDB opt0 []).1
    let spec : Nuts.Spec.DB.SpecDB := { kv := specOfOps ops }
    (∀ k, (DB.get s b k now).map (Option.map (·.value)) =
        match Nuts.Spec.DB.kvGet spec b k now with | some v => .ok (some v) | none => .err) ∧
    ((getAll s b now).map pairsOf =
        if Nuts.Spec.DB.liveOf spec b now = [] then .err else .ok (Nuts.Spec.DB.liveOf spec b now)) ∧
    (∀ st en, (rangeScan s b st en now).map pairsOf =
        if bcmp st en == .gt then .err
        else if ((Nuts.Spec.DB.liveOf spec b now).filter fun x => ble st x.1 && ble x.1 en) = [] then .err
        else .ok ((Nuts.Spec.DB.liveOf spec b now).filter fun x => ble st x.1 && ble x.1 en)) := by
  intro s spec
  have ⟨h1, h2, h3, _⟩ := (reached_presents opt0 ops hok hrec).reads now hn b
  refine ⟨fun k => (h1 k).trans ?_, h2, h3⟩
  show Option.elim (Nuts.Spec.DB.kvGet spec b k now) _ _ = _
  cases Nuts.Spec.DB.kvGet spec b k now <;> rfl

open NutsProofs.KVRefine NutsProofs.Hints in
/-- **C01 (both RAM index modes, every history).** The same statement without the restriction to the
key+value mode: whatever index mode the database was opened with (`HintKeyAndRAMIdxMode` fetches every value
through its hint from the data file — `Hints.hint_reads_back`: along every history the files are packed and
every hint addresses the record it was made for), `Get`, `GetAll` and `RangeScan` are the spec's reads of the
ordered map with TTL after the same puts and deletes. -/
theorem C01_reads_refine_ordered_map_both_modes (opt0 : Opts) (ops : List Op) (hok : OpsOk (openDB opt0 []).1 ops)
    (hrec : OpsRecOk ops) (now : Nat) (hn : now < 2 ^ 64) (b : Bytes) :
    let s := ops.foldl stepOp (openDB opt0 []).1
    let spec : Nuts.Spec.DB.SpecDB := { kv := specOfOps ops }
    (∀ k, (DB.get s b k now).map (Option.map (·.value)) =
        match Nuts.Spec.DB.kvGet spec b k now with | some v => .ok (some v) | none => .err) ∧
    ((getAll s b now).map pairsOf =
        if Nuts.Spec.DB.liveOf spec b now = [] then .err else .ok (Nuts.Spec.DB.liveOf spec b now)) ∧
    (∀ st en, (rangeScan s b st en now).map pairsOf =
        if bcmp st en == .gt then .err
        else if ((Nuts.Spec.DB.liveOf spec b now).filter fun x => ble st x.1 && ble x.1 en) = [] then .err
        else .ok ((Nuts.Spec.DB.liveOf spec b now).filter fun x => ble st x.1 && ble x.1 en)) := by
  intro s spec
  have ⟨h1, h2, h3, _⟩ := (reached_presents opt0 ops hok hrec).reads now hn b
  refine ⟨fun k => (h1 k).trans ?_, h2, h3⟩
  show Option.elim (Nuts.Spec.DB.kvGet spec b k now) _ _ = _
  cases Nuts.Spec.DB.kvGet spec b k now <;> rfl

open NutsProofs.KVRefine NutsProofs.Hints in
/-- **C01 (prefix scans, both RAM index modes, every history).** `PrefixScan(prefix, 0, -1)` — no offset, no
limit — returns exactly the live pairs whose key has the prefix, in ascending key order, and
`PrefixSearchScan` those whose key also satisfies the match predicate; an error when there are none. (The
tree walk — descend to the leaf of the prefix, skip smaller keys in that leaf, follow the chain while keys
have the prefix — is the list walk by `C03_tree_prefix_scan_is_walk`; in a list sorted by `bytes.Compare` the
keys with a prefix are one block that starts at the first key not below the prefix: `walk_eq_filter`.) -/
theorem C01_prefix_scans_refine_ordered_map (opt0 : Opts) (ops : List Op) (hok : OpsOk (openDB opt0 []).1 ops)
    (hrec : OpsRecOk ops) (now : Nat) (hn : now < 2 ^ 64) (b pre : Bytes) (mt : Bytes → Bool) :
    let s := ops.foldl stepOp (openDB opt0 []).1
    let spec : Nuts.Spec.DB.SpecDB := { kv := specOfOps ops }
    let want := (Nuts.Spec.DB.liveOf spec b now).filter fun x => hasPrefix x.1 pre && mt x.1
    (prefixScan s b pre 0 (-1) now mt).map pairsOf = if want = [] then .err else .ok want := by
  intro s spec want
  exact ((reached_presents opt0 ops hok hrec).reads now hn b).2.2.2 pre mt

/-- a one-record transaction for the witness below: `Put(bucket a, key k, 16 bytes)` / `Delete`, id `id` -/
def wPut (id k : Nat) : List Rec := [{ (mkRec [97] [k.toUInt8] (List.replicate 16 120) flagSet dsKV) with txid := id }]
def wDel (id k : Nat) : List Rec := [{ (mkRec [97] [k.toUInt8] [] flagDelete dsKV) with txid := id }]

open NutsProofs.KVRefine in
/-- the hypotheses of `C01_reads_refine_ordered_map` are met by a history with rotations (60-byte records,
100-byte segments), an overwrite, a delete and a reopen — and on it `GetAll` shows the one live pair -/
theorem C01_witness_history :
    let ops := [Op.commit (wPut 1 1), .commit (wPut 2 2), .reopen { seg := 100 }, .commit (wPut 3 1), .commit (wDel 4 2)]
    OpsOk (openDB { seg := 100 } []).1 ops ∧ OpsRecOk ops ∧ (ops.foldl stepOp (openDB { seg := 100 } []).1).opt.mode = 0 ∧
    (getAll (ops.foldl stepOp (openDB { seg := 100 } []).1) [97] 5).map pairsOf = .ok [([1], List.replicate 16 120)] := by
  refine ⟨⟨⟨by simp [wPut], 1, ?_⟩, ⟨by simp [wPut], 2, ?_⟩, ⟨by simp [wPut], 3, ?_⟩, ⟨by simp [wDel], 4, ?_⟩, trivial⟩, ?_, by decide +kernel, by decide +kernel⟩
  · intro r hr; simp only [wPut, List.mem_singleton] at hr; subst hr; decide +kernel
  · intro r hr; simp only [wPut, List.mem_singleton] at hr; subst hr; decide +kernel
  · intro r hr; simp only [wPut, List.mem_singleton] at hr; subst hr; decide +kernel
  · intro r hr; simp only [wDel, List.mem_singleton] at hr; subst hr; decide +kernel
  · intro t ht r hr
    simp only [List.mem_cons, List.mem_nil_iff, or_false, Op.commit.injEq, reduceCtorEq, false_or] at ht
    rcases ht with rfl | rfl | rfl | rfl <;>
      (first | (simp only [wPut, List.mem_singleton] at hr; subst hr; refine ⟨Or.inl rfl, by decide⟩)
             | (simp only [wDel, List.mem_singleton] at hr; subst hr; refine ⟨Or.inr rfl, by decide⟩))

/-- **regenerated tie of the split points.** The tree the refinement theorems are about splits where bptree.go
splits now: `order` and `getSplitIndex` are regenerated from the source on this run. -/
theorem C01_split_points_regenerated :
    NutsProofs.Facts.lookup NutsGen.F.consts "order" = some 8 ∧ (NutsGen.K.getSplitIndex.run 8).vals = [4] ∧
    (NutsGen.K.getSplitIndex.run 7).vals = [4] ∧ Nuts.Model.BPTree.maxKeys = 7 :=
  NutsProofs.Facts.bptree_split_points


/-- **regenerated tie of the B+ tree model.** The comparisons of `FindLeaf` / `Find` / `insertIntoLeaf`, the loop
headers, offset and limit counters and stop conditions of `findRange` / `PrefixScan` / `PrefixSearchScan`, the
capacity tests of `Insert` / `insertIntoParent` and the split indexes of `splitLeaf` / `splitParent` — the
lines `Nuts.Model.BPTree` renders — are, on this run, exactly the expected ones
(`NutsProofs.Facts.expectedBptStmts`, 86 lines of bptree.go). -/
theorem C01_tree_statements_regenerated : NutsGen.F.bptStmts = NutsProofs.Facts.expectedBptStmts :=
  NutsProofs.Facts.bpt_statements_ok

end NutsProofs.C01
