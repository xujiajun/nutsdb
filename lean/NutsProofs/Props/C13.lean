/-
  C13 — Write transactions are serializable (read-your-writes inside a transaction).
  The property is FALSE of the code by design (finding D-NO-RYW): every read, pop and validation of
  the transactional API consults the committed indexes only. What holds instead is stated: the outcome of a call
  ignores the pending writes (`txPut_outcome_ignores_pending`, `txPop_ignores_pending`; witness `C13_witness_double_pop`), the first pop of a
  transaction returns the committed extreme / member and queues the record that removes it (`C13_first_*`), and
  `Commit` applies the queued operations in issue order (`C13_commit_applies_operations_in_issue_order`).
-/
import Nuts.Model.Tx
import NutsProofs.Lemmas.ReopenAll
import NutsProofs.Pins.Appliers
namespace NutsProofs.C13
open Nuts Nuts.Model Nuts.Model.DB

theorem txPut_outcome_ignores_pending (t : Tx) (p : List Rec) (r : Rec) :
    (txPut { t with pending := p } r).2 = (txPut t r).2 := by
  unfold txPut
  simp only
  cases t.closed <;> cases t.writable <;> cases r.key.isEmpty <;> rfl

theorem txPut_ok (t : Tx) (r : Rec) (ho : t.closed = false) (hw : t.writable = true) (hk : r.key ≠ []) :
    txPut t r = ({ t with pending := t.pending ++ [{ r with txid := t.id, status := 0 }] }, .ok ()) := by
  have hk' : r.key.isEmpty = false := by cases hr : r.key with | nil => exact absurd hr hk | cons _ _ => rfl
  simp only [txPut, ho, hw, hk', Bool.false_eq_true, if_false, Bool.not_true]

/-- Root cause, as a theorem about the model: what `LPop`/`RPop` returns does not depend on the
records the transaction has already queued. -/
theorem txPop_ignores_pending (s : State) (t : Tx) (p : List Rec) (b k : Bytes) (ts : Nat) (left : Bool) :
    (txPop s { t with pending := p } b k ts left).2 = (txPop s t b k ts left).2 := by
  have hpeek : txPeek s { t with pending := p } b k left = txPeek s t b k left := rfl
  unfold txPop
  rw [hpeek]
  cases txPeek s t b k left with
  | ok item =>
    simp only
    have h := txPut_outcome_ignores_pending t p (mkRec b k item (if left then flagLPop else flagRPop) dsList ts)
    generalize txPut { t with pending := p } _ = a at h ⊢
    generalize txPut t _ = c at h ⊢
    obtain ⟨a1, a2⟩ := a
    obtain ⟨c1, c2⟩ := c
    simp only at h
    subst h
    cases a2 <;> rfl
  | err => rfl
  | panic => rfl

/-- committed list `[a]` -/
def s0 : State := (commit (openDB {} []).1 [{ (mkRec [98] [107] [97] flagRPush dsList) with txid := 1 }]).1

/-- Witness of D-NO-RYW: two `LPop`s in one write transaction on the list `[a]` both return `a`
(a serial execution would return `a` and then fail). -/
theorem C13_witness_double_pop :
    let t0 : Tx := { id := 2, writable := true }
    let (t1, r1) := txPop s0 t0 [98] [107] 0 true
    let (_, r2) := txPop s0 t1 [98] [107] 0 true
    r1 = .ok [97] ∧ r2 = .ok [97] := by
  decide

/-- **C13, the part that holds.** A transaction's first pop on a list it has not touched returns the
head of the committed list, which is the element the commit removes. -/
theorem C13_first_pop_is_head (s : State) (t : Tx) (b k x : Bytes) (xs : List Bytes) (l : ListDS.St) (ts : Nat)
    (ho : t.closed = false) (hw : t.writable = true) (hk : k ≠ [])
    (hl : listOf s b = some l) (hg : ListDS.get? l k = some (x :: xs)) :
    (txPop s t b k ts true).2 = .ok x ∧ (ListDS.lpop l k).1 = ListDS.put l k xs := by
  constructor
  · simp [txPop, txPeek, ho, hl, ListDS.lpeek, hg, txPut_ok t (mkRec b k x flagLPop dsList ts) ho hw hk]
  · simp [ListDS.lpop, hg]

example : listOf s0 [98] ≠ none := by decide

/-- … the same from the right: the first `RPop` on an untouched list returns its last element, which is the
element the commit removes. -/
theorem C13_first_rpop_is_last (s : State) (t : Tx) (b k x : Bytes) (xs : List Bytes) (l : ListDS.St) (ts : Nat)
    (ho : t.closed = false) (hw : t.writable = true) (hk : k ≠ [])
    (hl : listOf s b = some l) (hg : ListDS.get? l k = some (xs ++ [x])) :
    (txPop s t b k ts false).2 = .ok x ∧ (ListDS.rpop l k).1 = ListDS.put l k xs := by
  constructor
  · simp [txPop, txPeek, ho, hl, ListDS.rpeek, hg, txPut_ok t (mkRec b k x flagRPop dsList ts) ho hw hk]
  · simp [ListDS.rpop, hg]

/-- **sorted sets.** The first `ZPopMax` / `ZPopMin` of a transaction on a sorted set it has not touched
returns the last / first node of the committed set (the maximum / minimum in (score, key) order), queues exactly
one record, and applying that record at commit (or at `Open`) removes exactly the node that was returned. -/
theorem C13_first_zpop_is_extreme (s : State) (t : Tx) (b : Bytes) (z : ZSetA.St) (ts : Nat) (isMax atCommit : Bool)
    (ho : t.closed = false) (hw : t.writable = true) (hz : zsetOf s b = some z) :
    let rec_ : Rec := { (mkRec b [32] [] (if isMax then flagZPopMax else flagZPopMin) dsZSet ts) with txid := t.id, status := 0 }
    (txZPop s t b ts isMax).2 = .ok (if isMax then z.getLast? else z.head?) ∧
    (txZPop s t b ts isMax).1.pending = t.pending ++ [rec_] ∧
    (applyZSet z rec_ atCommit).1 = (if isMax then (ZSetA.popMax z).2 else (ZSetA.popMin z).2) ∧
    (if isMax then (ZSetA.popMax z).1 else (ZSetA.popMin z).1) = (if isMax then z.getLast? else z.head?) := by
  intro rec_
  have hput : txPut t (mkRec b [32] [] (if isMax then flagZPopMax else flagZPopMin) dsZSet ts) =
      ({ t with pending := t.pending ++ [rec_] }, .ok ()) := txPut_ok t _ ho hw (by simp [mkRec])
  refine ⟨?_, ?_, ?_, ?_⟩
  · simp only [txZPop, ho, hz, Bool.false_eq_true, if_false]
    rw [hput]
  · simp only [txZPop, ho, hz, Bool.false_eq_true, if_false]
    rw [hput]
  · cases isMax <;> simp [applyZSet, rec_, mkRec, flagZPopMax, flagZPopMin, flagZAdd, flagZRem, flagZRemRangeByRank]
  · cases isMax
    · simp only [Bool.false_eq_true, if_false, ZSetA.popMin]
      cases z <;> rfl
    · simp only [if_true, ZSetA.popMax]
      cases hl : z.getLast? <;> rfl

/-- **sets.** The first `SPop` of a transaction on a set it has not touched returns a member, queues one
removal record for it, and applying that record removes exactly that member. -/
theorem C13_first_spop_removes_member (s : State) (t : Tx) (b k x : Bytes) (m : SetDS.St) (mem : List Bytes) (ts : Nat)
    (ho : t.closed = false) (hw : t.writable = true) (hk : k ≠ []) (hx : x ≠ [])
    (hm : setOf s b = some m) (hg : SetDS.get? m k = some mem) (hin : mem.contains x = true) :
    let rec_ : Rec := { (mkRec b k x flagDelete dsSet ts) with txid := t.id, status := 0 }
    (txSPop s t b k (some x) ts).2 = .ok x ∧
    (txSPop s t b k (some x) ts).1.pending = t.pending ++ [rec_] ∧
    (applySet m rec_).1 = SetDS.put m k (mem.filter fun y => y ≠ x) := by
  intro rec_
  have hput := txPut_ok t (mkRec b k x flagDelete dsSet ts) ho hw hk
  have hin' : x ∈ mem := by simpa using hin
  have hmem : SetDS.sismember m k x = true := by simp [SetDS.sismember, hg, hin']
  have hpop : (txSPop s t b k (some x) ts).2 = .ok x ∧ (txSPop s t b k (some x) ts).1.pending = t.pending ++ [rec_] := by
    unfold txSPop
    simp only [ho, hm, hmem, Bool.false_eq_true, if_false, if_true]
    rw [hput]
    exact ⟨rfl, rfl⟩
  refine ⟨hpop.1, hpop.2, ?_⟩
  have hx' : x.isEmpty = false := by cases x <;> simp_all
  simp only [applySet, rec_, mkRec, SetDS.srem, hg, hx']
  simp

open NutsProofs.Reopen NutsProofs.ReopenAll in
/-- **C13, the state a transaction leaves.** Whatever a write transaction queued — pushes, pops, `LRem`,
`LSet`, `LTrim`, set insertions and removals, sorted-set insertions, removals and pops, over any buckets, any
number of them — when `Commit` succeeds, the lists, sets and sorted sets it leaves are those at its start with
the queued operations applied **one after another, in the order they were issued**, and none of those
applications panics. (What the property demands beyond this — that the values *returned* inside the
transaction are those of that sequential run — holds for the first operation on each structure
(`C13_first_pop_is_head`, `C13_first_rpop_is_last`, `C13_first_zpop_is_extreme`,
`C13_first_spop_removes_member`) and fails after it: finding D-NO-RYW, `C13_witness_double_pop`.) -/
theorem C13_commit_applies_operations_in_issue_order (s : State) (t : List Rec) (h : Shape s)
    (ht : AnyTx s.opt.seg t) (hok : (commit s t).2 = .ok ()) :
    sv (commit s t).1 = t.foldl (fun v r => (stepSV v r true).1) (sv s) ∧ NoPanic (sv s) t true := by
  exact LogCommit.commit_sv s t hok

/-- **regenerated tie.** `buildIdxes` (the loop over the transaction's entries in issue order) and the appliers it
calls are, on this run, the source lines the model's `buildIdxes` / `applyOther` were written from. -/
theorem C13_appliers_regenerated : NutsGen.F.applierStmts = NutsProofs.Facts.expectedApplierStmts :=
  NutsProofs.Facts.appliers_ok

end NutsProofs.C13
