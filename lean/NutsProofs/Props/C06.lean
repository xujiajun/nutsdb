/-
  C06 — Sets behave like mathematical sets (the `ds/set` model against membership semantics).
-/
import Nuts.Model.Tx
import NutsProofs.Lemmas.Isolation
import NutsProofs.Pins.SetDS
import NutsProofs.Pins.TxApi
import NutsProofs.Pins.TxApiSet
namespace NutsProofs.C06
open Nuts Nuts.Model Nuts.Model.SetDS

theorem mem_insert (m : List Bytes) (x y : Bytes) : y ∈ insert m x ↔ y ∈ m ∨ y = x := by
  unfold SetDS.insert
  split
  · rename_i h
    constructor
    · intro hy; exact Or.inl hy
    · rintro (hy | hy)
      · exact hy
      · subst hy; simpa using h
  · simp

theorem nodup_insert (m : List Bytes) (x : Bytes) (h : m.Nodup) : (insert m x).Nodup := by
  unfold SetDS.insert
  split
  · exact h
  · rename_i hx
    rw [List.nodup_append]
    refine ⟨h, by simp, ?_⟩
    intro a ha b hb
    simp at hb; subst hb
    intro hab; subst hab
    exact hx (by simpa using ha)

theorem mem_foldl_insert (items m : List Bytes) (y : Bytes) : y ∈ items.foldl insert m ↔ y ∈ m ∨ y ∈ items := by
  induction items generalizing m with
  | nil => simp
  | cons x rest ih => rw [List.foldl_cons, ih, mem_insert, List.mem_cons, or_assoc]

theorem nodup_foldl_insert (items m : List Bytes) (h : m.Nodup) : (items.foldl insert m).Nodup := by
  induction items generalizing m with
  | nil => exact h
  | cons x rest ih => exact ih _ (nodup_insert m x h)

/-- **SAdd**: afterwards the set at `k` is the union of the old set and the items; other keys are
untouched; no duplicates appear (`sadd_nodup`). -/
theorem sadd_spec (s : St) (k : Bytes) (items : List Bytes) (y : Bytes) :
    (y ∈ (get? (sadd s k items) k).getD [] ↔ y ∈ (get? s k).getD [] ∨ y ∈ items) ∧
    (∀ k', k' ≠ k → get? (sadd s k items) k' = get? s k') := by
  constructor
  · simp [sadd, setGet_eq, setPut_eq, aget_aput_self, mem_foldl_insert]
  · intro k' h; simp [sadd, setGet_eq, setPut_eq, aget_aput_other _ _ _ _ h]

theorem sadd_nodup (s : St) (k : Bytes) (items : List Bytes) (h : ((get? s k).getD []).Nodup) :
    ((get? (sadd s k items) k).getD []).Nodup := by
  rw [setGet_eq] at h
  simp [sadd, setGet_eq, setPut_eq, aget_aput_self, nodup_foldl_insert _ _ h]

/-- **SRem** (guard of finding D-SREM-EMPTY: the first item is not empty; the set exists):
afterwards exactly the items are gone. -/
theorem srem_spec_partial (s : St) (k : Bytes) (m items : List Bytes) (i0 : Bytes) (rest : List Bytes)
    (hk : get? s k = some m) (hi : items = i0 :: rest) (hne : i0 ≠ []) (y : Bytes) :
    (srem s k items).2 = .ok () ∧
    (y ∈ (get? (srem s k items).1 k).getD [] ↔ y ∈ m ∧ y ∉ items) := by
  have he : i0.isEmpty = false := by cases i0 <;> simp_all
  subst hi
  simp [srem, hk, he, setGet_eq, setPut_eq, aget_aput_self]

/-- Witness of D-SREM-EMPTY: the empty member cannot be removed. -/
theorem C06_witness_srem_empty :
    (srem [([107], [[], [1]])] [107] [[]]) = ([([107], [[], [1]])], .err) := by decide

/-- **SPop** returns a member and removes exactly it. -/
theorem spop_spec (s : St) (k : Bytes) (m : List Bytes) (x : Bytes) (hk : get? s k = some m) (hx : x ∈ m) (y : Bytes) :
    (spop s k (some x)).2 = some x ∧
    (y ∈ (get? (spop s k (some x)).1 k).getD [] ↔ y ∈ m ∧ y ≠ x) := by
  simp [spop, hk, hx, setGet_eq, setPut_eq, aget_aput_self]

/-- Witness of D-SMOVE (semantics): moving a value that is NOT a member of the source still adds
it to the destination. -/
theorem C06_witness_smove_nonmember :
    (smove [([1], [[7]]), ([2], [[8]])] [1] [2] [9]).1 = [([1], [[7]]), ([2], [[8], [9]])] := by decide

/-! ### sets through transactions: every history -/

open Nuts.Model.DB

/-- the members a set key holds (a missing key holds none) -/
def membersOf (m : St) (k : Bytes) : List Bytes := (get? m k).getD []

/-- what one committed set record does to the members of its key: `SAdd` inserts the member unless it is
there, `SRem` / `SPop` take it out (the empty member cannot be removed: finding D-SREM-EMPTY) -/
def setStep (mem : List Bytes) (r : Rec) : List Bytes :=
  if r.flag == flagSet then SetDS.insert mem r.value
  else if r.flag == flagDelete then (if r.value.isEmpty then mem else mem.filter fun y => y ≠ r.value)
  else mem

theorem membersOf_put (m : St) (k k' : Bytes) (v : List Bytes) :
    membersOf (put m k v) k' = if k = k' then v else membersOf m k' := by
  unfold membersOf
  rw [setPut_eq, setGet_eq, setGet_eq, aget_aput]
  by_cases h : k = k' <;> simp [h, eq_comm]

theorem membersOf_sadd (m : St) (k k' x : Bytes) :
    membersOf (sadd m k [x]) k' = if k = k' then SetDS.insert (membersOf m k') x else membersOf m k' := by
  unfold sadd
  rw [membersOf_put]
  split
  · rename_i h; subst h; rfl
  · rfl

theorem membersOf_srem (m : St) (k k' x : Bytes) :
    membersOf (srem m k [x]).1 k' =
      if k = k' then (if x.isEmpty then membersOf m k' else (membersOf m k').filter fun y => y ≠ x)
      else membersOf m k' := by
  have hf : ∀ mem : List Bytes, (mem.filter fun y => !([x].contains y)) = mem.filter fun y => y ≠ x := fun mem =>
    List.filter_congr fun y _ => by by_cases hy : y = x <;> simp [hy]
  have hm : membersOf m k = (get? m k).getD [] := rfl
  unfold srem
  cases hg : get? m k with
  | none =>
    rw [hg] at hm
    by_cases h : k = k'
    · subst h; simp only [hm, Option.getD_none, List.filter_nil, ite_self]
    · simp only [if_neg h]
  | some mem =>
    rw [hg] at hm
    by_cases he : x.isEmpty = true
    · simp only [he, if_true, ite_self]
    · simp only [he, Bool.false_eq_true, if_false, membersOf_put, hf]
      by_cases h : k = k'
      · subst h; simp only [if_true, hm, Option.getD_some]
      · simp only [if_neg h]

theorem applySet_members (m : St) (r : Rec) (k : Bytes) :
    membersOf (applySet m r).1 k = if r.key = k then setStep (membersOf m k) r else membersOf m k := by
  unfold applySet setStep
  by_cases hd : (r.flag == flagDelete) = true
  · have hs : (r.flag == flagSet) = false := by rw [beq_iff_eq.mp hd]; decide
    simp only [hd, hs, if_true, Bool.false_eq_true, if_false, membersOf_srem]
  · by_cases hs : (r.flag == flagSet) = true
    · simp only [hd, hs, if_true, Bool.false_eq_true, if_false, membersOf_sadd]
    · simp only [hd, hs, Bool.false_eq_true, if_false, ite_self]

theorem applySet_fold (rs : List Rec) (m : St) (k : Bytes) :
    membersOf (rs.foldl (fun m r => (applySet m r).1) m) k =
      (rs.filter fun r => r.key == k).foldl setStep (membersOf m k) := by
  induction rs generalizing m with
  | nil => rfl
  | cons r rest ih =>
    rw [List.foldl_cons, ih, applySet_members, List.filter_cons]
    by_cases hk : r.key = k
    · rw [if_pos hk, if_pos (by simpa using hk), List.foldl_cons]
    · rw [if_neg hk, if_neg (by simpa using hk)]

open NutsProofs.ReopenAll NutsProofs.Isolation in
/-- **C06, sets through transactions, every history.** After any history of successfully committed
transactions over all four structures, with reopens (key+value mode), the members of set `k` of bucket `b` are
what the committed `SAdd` / `SRem` / `SPop` records of that bucket and key produce, applied in commit order to
the empty set: insertion unless present, removal — whatever other buckets, keys and structures did in between.
(`SMove*` write no record: finding D-SMOVE.) -/
theorem C06_sets_after_every_history (opt0 : Opts) (ops : List OpA) (hok : OpsOkA (openDB opt0 []).1 ops) (b k : Bytes) :
    let s := ops.foldl stepA (openDB opt0 []).1
    membersOf ((aget? s.sets b).getD []) k =
      (((allRecs s.files).map (·.1)).filter fun r => r.bucket == b && (r.ds == dsSet && r.key == k)).foldl setStep [] := by
  intro s
  rw [(structures_of_own_records s (allInv_reached opt0 ops hok) b).2.1, applySet_fold, List.filter_filter, List.filter_filter]
  congr 1
  apply List.filter_congr
  intro x _
  rw [Bool.and_comm (x.ds == dsSet), Bool.and_comm]

theorem setStep_nodup (mem : List Bytes) (r : Rec) (h : mem.Nodup) : (setStep mem r).Nodup := by
  unfold setStep
  split
  · exact nodup_insert mem r.value h
  · split
    · split
      · exact h
      · exact List.Nodup.sublist List.filter_sublist h
    · exact h

/-- **regenerated tie.** On this run, the set calls of the transactional API (`sPut` one record per member, `SPop`, the two-set reads and moves) and `tx.put` are the source lines `Nuts.Model.Tx` was written from (`NutsProofs.Facts.expectedTxApiCore`, `expectedTxApiSet`). -/
theorem C06_tx_api_regenerated :
    NutsProofs.Facts.txApiOfCore = NutsProofs.Facts.expectedTxApiCore ∧
    NutsProofs.Facts.txApiOfSet = NutsProofs.Facts.expectedTxApiSet :=
  ⟨NutsProofs.Facts.tx_api_core_ok, NutsProofs.Facts.tx_api_set_ok⟩

/-- **regenerated tie.** every condition, loop and call of ds/set/set.go is, on this run, the source `Nuts.Model.SetDS` was written from (`NutsProofs.Facts.expectedSetStmts`). -/
theorem C06_set_statements_regenerated : NutsGen.F.setStmts = NutsProofs.Facts.expectedSetStmts :=
  NutsProofs.Facts.set_stmts_ok

end NutsProofs.C06
