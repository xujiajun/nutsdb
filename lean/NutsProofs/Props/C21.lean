/-
  Property C21 — stored records round-trip and corruption is never served as data.

  Model: Nuts.Model.Codec (the three codecs built from the header tables that tools/extract regenerates
  from /repo's encoder and decoder statements; CRC-32 as a shift register; `ReadAt` of FileIO and MMap).

  Proved here, for **all** field values / payloads / file contexts:
    * round trip of data entries (both access modes, anywhere in a file), bucket metadata and root-index
      records — `C21_entry_roundtrip`, `C21_meta_roundtrip`, `C21_root_roundtrip`;
    * a written entry is never mistaken for the end-of-data marker — part of the round trip (keys are
      non-empty: `tx.put` rejects empty keys);
    * any alteration of exactly one byte of the checksummed part of a record that leaves the three size
      fields intact (in particular every single-bit flip in timestamp, flag, TTL, status, structure code,
      transaction id, bucket, key or value) and any alteration of the stored crc is answered by an error or
      "absent", never by a record — `C21_entry_one_byte`.
  Not a theorem (and why): a flip inside a size field or a truncation changes *which* bytes are
  checksummed, so whether the CRC of that other string collides depends on the bytes that follow; those
  cases are enumerated against the implementation by the `codec` suite (every bit of every generated
  record, every truncation length) and reported as tests in the evidence.
-/
import NutsProofs.Lemmas.CodecEnc
import NutsProofs.Facts
import NutsProofs.Pins.Layouts
namespace NutsProofs.C21
open Nuts Nuts.Model.Codec NutsProofs.Codec NutsProofs.Crc

/-! ### the regenerated tables: the encoder's lists the header fields and then the checksum as `c32`; the decoder's is the
same list with the checksum as `crc` (positions and widths are compared by `rfl` in the uses below: the tables are
literals); the names are distinct and the fields tile the header -/

theorem entry_wf : HdrWF NutsGen.F.entryEnc.dropLast entryHeaderSize "c32" :=
  ⟨by decide +kernel, by decide +kernel, by decide +kernel, by decide +kernel, by decide⟩
theorem meta_wf : HdrWF NutsGen.F.metaEnc.dropLast metaHeaderSize "c32" :=
  ⟨by decide +kernel, by decide +kernel, by decide +kernel, by decide +kernel, by decide⟩
theorem root_wf : HdrWF NutsGen.F.rootEnc.dropLast rootHeaderSize "c32" :=
  ⟨by decide +kernel, by decide +kernel, by decide +kernel, by decide +kernel, by decide⟩

/-- the decoder's field of that name (a dummy when there is none) -/
def fieldOf (D : Layout) (n : String) : Field := (D.find? (·.1 == n)).getD ("", 0, 0, 0)

theorem valOf_getFields (D : Layout) (hdr : Bytes) (n : String) :
    valOf (getFields D hdr) n = leVal (slice hdr (fieldOf D n).2.1 (fieldOf D n).2.2.1) := by
  induction D with
  | nil => rfl
  | cons d D ih =>
    unfold valOf getFields fieldOf at *
    rw [List.map_cons, List.find?_cons, List.find?_cons]
    cases d.1 == n
    · exact ih
    · rfl

/-! ### data entries -/

/-- the field values a Go `Entry` can hold (sizes are `uint32`, …) and what `tx.put` guarantees -/
structure EntryWF (e : Entry) : Prop where
  key_ne : e.key ≠ []
  ksz : e.key.length < 2 ^ 32
  vsz : e.value.length < 2 ^ 32
  bsz : e.bucket.length < 2 ^ 32
  ts : e.ts < 2 ^ 64
  ttl : e.ttl < 2 ^ 32
  flag : e.flag < 2 ^ 16
  status : e.status < 2 ^ 16
  ds : e.ds < 2 ^ 16
  txid : e.txid < 2 ^ 64

theorem encodeEntry_eq (e : Entry) (h : EntryWF e) :
    ∃ hdr : Bytes, hdr.length = entryHeaderSize ∧ encodeEntry e = hdr ++ (e.bucket ++ (e.key ++ e.value)) ∧
      getFields NutsGen.F.entryDec hdr =
        e.vals ++ [("crc", (crc32 (hdr.drop 4 ++ (e.bucket ++ (e.key ++ e.value)))).toNat)] := by
  have := getFields_encodeRaw entry_wf e.raw rfl ⟨h.ts, h.ksz, h.vsz, h.flag, h.ttl, h.bsz, h.status, h.ds, h.txid, trivial⟩
  simp only [Entry.raw, List.flatten_cons, List.flatten_nil, List.append_nil] at this
  exact this

theorem entry_decoded (e : Entry) (c : Nat) (V : Vals) (hV : V = e.vals ++ [("crc", c)]) :
    valOf V "timestamp" = e.ts ∧ valOf V "keySize" = e.key.length ∧ valOf V "valueSize" = e.value.length ∧
    valOf V "Flag" = e.flag ∧ valOf V "TTL" = e.ttl ∧ valOf V "bucketSize" = e.bucket.length ∧
    valOf V "status" = e.status ∧ valOf V "ds" = e.ds ∧ valOf V "txID" = e.txid ∧ valOf V "crc" = c := by
  subst hV
  have hnd : ((e.vals ++ [("crc", c)]).map (·.1)).Nodup := entry_wf.names
  exact ⟨valOf_at hnd 0 rfl, valOf_at hnd 1 rfl, valOf_at hnd 2 rfl, valOf_at hnd 3 rfl, valOf_at hnd 4 rfl,
    valOf_at hnd 5 rfl, valOf_at hnd 6 rfl, valOf_at hnd 7 rfl, valOf_at hnd 8 rfl, valOf_at hnd 9 rfl⟩

/-- **`ReadAt` on a record lying in a file**, in both access modes: any header `h` followed by three parts of
the sizes that `h` declares is answered by "end of data", by an error when the stored checksum is not that
of everything behind the crc field, and by the entry otherwise. Round trip and corruption both follow. -/
theorem readEntry_parts (mm : Bool) (pre post h b k v : Bytes) (V : Vals) (hV : getFields NutsGen.F.entryDec h = V)
    (hl : h.length = entryHeaderSize) (hb : valOf V "bucketSize" = b.length) (hk : valOf V "keySize" = k.length)
    (hv : valOf V "valueSize" = v.length) :
    readEntry mm (pre ++ (h ++ (b ++ (k ++ v))) ++ post) pre.length =
      if valOf V "crc" = 0 ∧ k.length = 0 ∧ v.length = 0 ∧ valOf V "timestamp" = 0 then .ok none
      else if (crc32 (h.drop 4 ++ (b ++ (k ++ v)))).toNat ≠ valOf V "crc" then .err
      else .ok (some { bucket := b, key := k, value := v, ts := valOf V "timestamp", ttl := valOf V "TTL",
                       flag := valOf V "Flag", status := valOf V "status", ds := valOf V "ds", txid := valOf V "txID" }) := by
  unfold readEntry
  simp only [← hl, List.append_assoc, Nat.add_assoc, readN_append_length, readN_append_add, readN_zero_length, hV, hb,
    hk, hv, getCrc_eq, List.flatten_cons, List.flatten_nil, List.append_nil]

/-- **Round trip of data entries.** Whatever the field values (within their Go types), wherever the
record lies in a data file and whichever access mode reads it, `ReadAt` returns exactly the entry that
`Encode` wrote — never the end-of-data marker, never an error. -/
theorem C21_entry_roundtrip (mm : Bool) (pre post : Bytes) (e : Entry) (h : EntryWF e) :
    readEntry mm (pre ++ encodeEntry e ++ post) pre.length = .ok (some e) := by
  obtain ⟨hdr, hl, henc, hV⟩ := encodeEntry_eq e h
  have hk : e.key.length ≠ 0 := fun h0 => h.key_ne (List.length_eq_zero_iff.mp h0)
  obtain ⟨dts, dk, dv, dfl, dttl, db, dst, dds, dtx, dc⟩ := entry_decoded e _ _ hV
  rw [henc, readEntry_parts mm pre post hdr _ _ _ _ rfl hl db dk dv, if_neg (fun hz => hk hz.2.1), dc, dts, dfl, dttl, dst,
    dds, dtx]
  exact if_neg (not_not_intro rfl)

/-! ### corruption -/

/-- position `p` of the header lies inside the decoder's field `n` -/
def inField (D : Layout) (n : String) (p : Nat) : Prop := (fieldOf D n).2.1 ≤ p ∧ p < (fieldOf D n).2.2.1

instance (D : Layout) (n : String) (p : Nat) : Decidable (inField D n p) := by unfold inField; exact inferInstance

theorem exists_append_of_length {α} (l : List α) (a b : Nat) (h : l.length = a + b) :
    ∃ x y, l = x ++ y ∧ x.length = a ∧ y.length = b :=
  ⟨l.take a, l.drop a, (List.take_append_drop a l).symm, by simp [h], by simp [h]⟩

/-- the decoder's view of a field only depends on that field's bytes: two records that differ in one byte,
cut into header and rest at the same place, all fields of the table inside the header -/
theorem valOf_getFields_alter (D : Layout) (n : String) (h h' R R' A B : Bytes) (x y : UInt8)
    (hrec : h ++ R = A ++ x :: B) (hrec' : h' ++ R' = A ++ y :: B) (hl : h'.length = h.length)
    (hin : ∀ d ∈ D, d.2.2.1 ≤ h.length) (hout : ¬ inField D n A.length) :
    valOf (getFields D h') n = valOf (getFields D h) n := by
  have hhi : (fieldOf D n).2.2.1 ≤ h.length := by
    unfold fieldOf
    cases hf : D.find? (·.1 == n) with
    | none => exact Nat.zero_le _
    | some d => exact hin d (List.mem_of_find?_eq_some hf)
  rw [valOf_getFields, valOf_getFields, ← slice_append_left h' R' _ _ (hl ▸ hhi), ← slice_append_left h R _ _ hhi,
    hrec, hrec']
  refine congrArg leVal (slice_alter A B x y _ _ ?_)
  unfold inField at hout
  omega

/-- **Single-byte corruption of a data entry is never served as data.** Take any encoded entry lying
anywhere in a data file and alter exactly one byte of it (any alteration, in particular any single-bit
flip), anywhere except inside the three size fields: in the stored crc, timestamp, flag, TTL, status,
structure code, transaction id, bucket, key or value. Then `ReadAt`, in either access mode, returns an
error or "end of data" — never a record. -/
theorem C21_entry_one_byte (mm : Bool) (pre post A B : Bytes) (x y : UInt8) (e : Entry) (h : EntryWF e)
    (henc : encodeEntry e = A ++ x :: B) (hxy : x ≠ y)
    (hk : ¬ inField NutsGen.F.entryDec "keySize" A.length)
    (hv : ¬ inField NutsGen.F.entryDec "valueSize" A.length)
    (hb : ¬ inField NutsGen.F.entryDec "bucketSize" A.length) :
    readEntry mm (pre ++ (A ++ y :: B) ++ post) pre.length = .err ∨
    readEntry mm (pre ++ (A ++ y :: B) ++ post) pre.length = .ok none := by
  obtain ⟨hdr, hl, henc', hV⟩ := encodeEntry_eq e h
  rw [henc] at henc'
  -- the altered record has the same length: cut it where the intact one is cut
  have hlen : (A ++ y :: B).length = hdr.length + (e.bucket.length + (e.key.length + e.value.length)) := by
    have := congrArg List.length henc'
    simpa using this
  obtain ⟨h', r1, e1, hl', hr1⟩ := exists_append_of_length _ _ _ hlen
  obtain ⟨b', r2, rfl, hb', hr2⟩ := exists_append_of_length _ _ _ hr1
  obtain ⟨k', v', rfl, hk', hv'⟩ := exists_append_of_length _ _ _ hr2
  -- the three size fields are intact, so `ReadAt` reads these parts
  have hsz : ∀ n, ¬ inField NutsGen.F.entryDec n A.length →
      valOf (getFields NutsGen.F.entryDec h') n = valOf (getFields NutsGen.F.entryDec hdr) n :=
    fun n => valOf_getFields_alter _ n hdr h' _ _ A B x y henc'.symm e1.symm hl' (by rw [hl]; decide)
  obtain ⟨-, dk, dv, -, -, db, -, -, -, dc⟩ := entry_decoded e _ _ hV
  -- the stored checksum is the first four bytes, the checksummed part the rest, of the altered as of the intact
  -- record: the checksum test fails
  have h4 : ∀ g : Bytes, g.length = hdr.length → 4 ≤ g.length := fun g hg => by rw [hg, hl]; decide
  have hst : ∀ g R : Bytes, 4 ≤ g.length → valOf (getFields NutsGen.F.entryDec g) "crc" = leVal (slice (g ++ R) 0 4) :=
    fun g R hg => (valOf_at (V := getFields NutsGen.F.entryDec g) entry_wf.names 9 rfl).trans
      (congrArg leVal (slice_append_left g R 0 4 hg).symm)
  have hbad : (crc32 (h'.drop 4 ++ (b' ++ (k' ++ v')))).toNat ≠ valOf (getFields NutsGen.F.entryDec h') "crc" := by
    rw [hst h' _ (h4 h' hl'), ← List.drop_append_of_le_length (h4 h' hl'), ← e1]
    apply crc_guard_one_byte A B x y hxy
    rw [henc', ← hst hdr _ (h4 hdr rfl), List.drop_append_of_le_length (h4 hdr rfl), dc]
  rw [e1, readEntry_parts mm pre post h' b' k' v' _ rfl (hl'.trans hl) ((hsz _ hb).trans (db.trans hb'.symm))
    ((hsz _ hk).trans (dk.trans hk'.symm)) ((hsz _ hv).trans (dv.trans hv'.symm)), if_pos hbad]
  split
  · exact Or.inr rfl
  · exact Or.inl rfl

/-! ### bucket metadata and root-index records (sparse mode) -/

theorem encodeMeta_eq (m : Meta) (hs : m.start.length < 2 ^ 32) (he : m.stop.length < 2 ^ 32) :
    ∃ hdr : Bytes, hdr.length = metaHeaderSize ∧ encodeMeta m = hdr ++ (m.start ++ m.stop) ∧
      getFields NutsGen.F.metaDec hdr = m.raw.vals ++ [("crc", (crc32 (hdr.drop 4 ++ (m.start ++ m.stop))).toNat)] := by
  have := getFields_encodeRaw meta_wf m.raw rfl ⟨hs, he, trivial⟩
  simp only [Meta.raw, List.flatten_cons, List.flatten_nil, List.append_nil] at this
  exact this

/-- **Round trip of bucket metadata**, for every key range. -/
theorem C21_meta_roundtrip (m : Meta) (post : Bytes) (hs : m.start.length < 2 ^ 32) (he : m.stop.length < 2 ^ 32) :
    readMeta (encodeMeta m ++ post) = .ok m := by
  obtain ⟨hdr, hl, henc, hV⟩ := encodeMeta_eq m hs he
  have hnd : ((m.raw.vals ++ [("crc", (crc32 (hdr.drop 4 ++ (m.start ++ m.stop))).toNat)]).map (·.1)).Nodup := meta_wf.names
  unfold readMeta
  simp only [henc, ← hl, List.append_assoc, readN_zero_length, readN_append_length, readN_append_add, hV,
    valOf_at hnd 0 rfl, valOf_at hnd 1 rfl, valOf_at hnd 2 rfl, getCrc_eq, List.flatten_cons, List.flatten_nil, List.append_nil]
  exact if_neg (not_not_intro rfl)

theorem encodeRoot_eq (r : Root) (hf : r.fid < 2 ^ 64) (ho : r.rootOff < 2 ^ 64)
    (hs : r.start.length < 2 ^ 32) (he : r.stop.length < 2 ^ 32) :
    ∃ hdr : Bytes, hdr.length = rootHeaderSize ∧ encodeRoot r = hdr ++ (r.start ++ r.stop) ∧
      getFields NutsGen.F.rootDec hdr = r.raw.vals ++ [("crc", (crc32 (hdr.drop 4 ++ (r.start ++ r.stop))).toNat)] := by
  have := getFields_encodeRaw root_wf r.raw rfl ⟨hf, ho, hs, he, trivial⟩
  simp only [Root.raw, List.flatten_cons, List.flatten_nil, List.append_nil] at this
  exact this

/-- **Round trip of root-index records**, anywhere in a `.bptridx` file; a record with all four numeric
fields zero is the reader's end marker, so it is excluded (the library never writes one: `fID` of a
sealed segment with an empty range does not occur). -/
theorem C21_root_roundtrip (r : Root) (pre post : Bytes) (hf : r.fid < 2 ^ 64) (ho : r.rootOff < 2 ^ 64)
    (hs : r.start.length < 2 ^ 32) (he : r.stop.length < 2 ^ 32)
    (hnz : ¬ (r.rootOff = 0 ∧ r.fid = 0 ∧ r.start.length = 0 ∧ r.stop.length = 0)) :
    readRoot (pre ++ encodeRoot r ++ post) pre.length = .ok (some r) := by
  obtain ⟨hdr, hl, henc, hV⟩ := encodeRoot_eq r hf ho hs he
  have hnd : ((r.raw.vals ++ [("crc", (crc32 (hdr.drop 4 ++ (r.start ++ r.stop))).toNat)]).map (·.1)).Nodup := root_wf.names
  unfold readRoot
  simp only [henc, ← hl, List.append_assoc, Nat.add_assoc, readN_zero_length, readN_append_length, readN_append_add, hV,
    valOf_at hnd 0 rfl, valOf_at hnd 1 rfl, valOf_at hnd 2 rfl, valOf_at hnd 3 rfl, valOf_at hnd 4 rfl, getCrc_eq,
    List.flatten_cons, List.flatten_nil, List.append_nil]
  exact (if_neg hnz).trans (if_neg (not_not_intro rfl))

/-! ### the hypotheses are satisfiable, and the statements say something on a concrete record -/

def sampleEntry : Entry :=
  { bucket := [98], key := [107, 124], value := [], ts := 1700000000, ttl := 0, flag := 1, status := 1, ds := 2, txid := 12345678901234567 }

example : EntryWF sampleEntry := by constructor <;> decide

/-- a one-byte alteration of the transaction id of the sample record, concretely -/
example : ∃ A B x, encodeEntry sampleEntry = A ++ x :: B ∧ A.length = 35 ∧
    ¬ inField NutsGen.F.entryDec "keySize" A.length ∧ ¬ inField NutsGen.F.entryDec "valueSize" A.length ∧
    ¬ inField NutsGen.F.entryDec "bucketSize" A.length := by
  -- no byte of the record is computed: any list longer than 35 splits at position 35, and the record has a header
  obtain ⟨hdr, hl, henc, -⟩ := encodeEntry_eq sampleEntry (by constructor <;> decide)
  have h35 : 35 < (encodeEntry sampleEntry).length := by
    rw [henc, List.length_append, hl]; exact Nat.lt_add_right _ (by decide)
  have hA : ((encodeEntry sampleEntry).take 35).length = 35 := List.length_take_of_le (Nat.le_of_lt h35)
  refine ⟨(encodeEntry sampleEntry).take 35, (encodeEntry sampleEntry).drop 36, (encodeEntry sampleEntry)[35], ?_, hA, ?_⟩
  · rw [List.getElem_cons_drop, List.take_append_drop]
  · rw [hA]; decide +kernel

/-- **regenerated tie of the codecs.** Read off entry.go / bucket_meta.go / bptree_root_idx.go on this run: encoder
and decoder agree on every header field of the three record kinds; every field's slice has the width of its
integer type, the fields are disjoint and cover the header (42 / 12 / 28 bytes); the checksum covers everything
after the crc field and then the payloads in storage order; the header size constant is the model's. -/
theorem C21_layouts_regenerated :
    (NutsProofs.Facts.fieldsOf NutsGen.F.entryEnc = NutsProofs.Facts.fieldsOf NutsGen.F.entryDec ∧
     NutsProofs.Facts.fieldsOf NutsGen.F.metaEnc = NutsProofs.Facts.fieldsOf NutsGen.F.metaDec ∧
     NutsProofs.Facts.fieldsOf NutsGen.F.rootEnc = NutsProofs.Facts.fieldsOf NutsGen.F.rootDec) ∧
    (NutsProofs.Facts.wf NutsGen.F.entryEnc 42 = true ∧ NutsProofs.Facts.wf NutsGen.F.metaEnc 12 = true ∧
     NutsProofs.Facts.wf NutsGen.F.rootEnc 28 = true) ∧
    NutsGen.F.entryCrcDec = ["buf[4:]", "e.Meta.bucket", "e.Key", "e.Value"] ∧
    NutsProofs.Facts.lookup NutsGen.F.consts "DataEntryHeaderSize" = some (Nuts.Model.DB.headerSize : Nat) :=
  ⟨NutsProofs.Facts.layouts_agree, NutsProofs.Facts.layouts_wf, NutsProofs.Facts.crc_coverage_ok.2.1,
   NutsProofs.Facts.consts_ok.2.2.2.2.2.2.2.2.2.2.2.2.2.2.2.2.2.2.1⟩

end NutsProofs.C21
