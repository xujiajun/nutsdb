/-
  C07 — Sorted sets order members by (score, key).

  Two layers, both proved for every input:

  * the node list (`Nuts.Model.ZSetA`, what the database model uses): `Put` / `Remove` keep it strictly
    ordered by (score, key) with distinct keys; the head is the minimum (`Lemmas/ZSetOrder.lean`);
  * the skiplist itself (`Nuts.Model.Skiplist`: towers, one span per level, every search loop of
    ds/zset/sortedset.go, the span arithmetic of `insertNode` and `deleteNode`, level growth and shrinking):
    for every sequence of `Put`, `Remove`, `PopMin`, `PopMax`, `GetByRankRange(…, remove)`, every level layout
    and every level the random generator may draw (1 … 32), the members of the skiplist in level-0 order are exactly the node list after
    the same operations, each operation returns what the list operation returns, and every stored span below the
    current `level` is the distance to the next tower that has that level — the fact the rank queries rest on
    (`C07_skiplist_refines_sorted_list`; `Lemmas/Skiplist*.lean`).

  The model of the skiplist is tied to the code by suite `zset-ds`: after every operation the levels, spans,
  forward and backward pointers, tail and length of the real structure are compared with the model's.
-/
import Nuts.Model.ZSetA
import NutsProofs.Lemmas.ZSetOrder
import NutsProofs.Lemmas.SkiplistRank
import NutsProofs.Lemmas.Isolation
import NutsProofs.Pins.Zset
import NutsProofs.Pins.TxApi
import NutsProofs.Pins.TxApiZset
namespace NutsProofs.C07
open Nuts Nuts.Model Nuts.Model.ZSetA NutsProofs.ZOrd

/-! ### the node list -/

/-- **Put** keeps the node list strictly ordered by (score, key) -/
theorem C07_put_sorted (s : St) (k : Bytes) (sc : Int) (v : Bytes) (h : ZOrd.Sorted s) : ZOrd.Sorted (put s k sc v) :=
  put_sorted s k sc v h

theorem C07_remove_sorted (s : St) (k : Bytes) (h : ZOrd.Sorted s) : ZOrd.Sorted (remove s k) := remove_sorted s k h

/-- inserting a node whose key is new keeps the list strictly ordered -/
theorem C07_insert_sorted (s : St) (n : Node) (h : ZOrd.Sorted s) (hk : ∀ x ∈ s, x.key ≠ n.key) :
    ZOrd.Sorted (insertSorted s n) := insertSorted_sorted s n h hk

/-- in a sorted list the minimum is the head -/
theorem C07_head_is_min (x : Node) (xs : St) (h : ZOrd.Sorted (x :: xs)) : ∀ y ∈ xs, Lt x y :=
  (List.pairwise_cons.mp h).1

/-- ties on the score are ordered by key: `a` before `b` at equal scores -/
theorem C07_witness_ties : (put (put [] [98] 1 []) [97] 1 []).map (·.key) = [[97], [98]] := by decide

/-! ### the skiplist -/

open Nuts.Model.Skiplist NutsProofs.SkipL

/-- the mutating operations of ds/zset; `lvl` is the level `randomLevel()` drew for the node a `Put` creates
(ignored when it creates none) -/
inductive ZOp where
  | put (k : Bytes) (score : Int) (v : Bytes) (lvl : Nat)
  | rem (k : Bytes)
  | popMin
  | popMax
  | remRange (a b : Int)

def stepSL (s : SL) : ZOp → SL
  | .put k sc v lvl => Skiplist.put s k sc v lvl
  | .rem k => (Skiplist.remove s k).1
  | .popMin => (Skiplist.popMin s).1
  | .popMax => (Skiplist.popMax s).1
  | .remRange a b => (Skiplist.getByRankRange s a b true).1

def stepZ (z : St) : ZOp → St
  | .put k sc v _ => ZSetA.put z k sc v
  | .rem k => ZSetA.remove z k
  | .popMin => (ZSetA.popMin z).2
  | .popMax => (ZSetA.popMax z).2
  | .remRange a b => (ZSetA.getByRankRange z a b true).2

def outSL (s : SL) : ZOp → List Node
  | .put _ _ _ _ => []
  | .rem k => (Skiplist.remove s k).2.toList
  | .popMin => (Skiplist.popMin s).2.toList
  | .popMax => (Skiplist.popMax s).2.toList
  | .remRange a b => (Skiplist.getByRankRange s a b true).2

def outZ (z : St) : ZOp → List Node
  | .put _ _ _ _ => []
  | .rem k => (ZSetA.find? z k).toList
  | .popMin => (ZSetA.popMin z).1.toList
  | .popMax => (ZSetA.popMax z).1.toList
  | .remRange a b => (ZSetA.getByRankRange z a b true).1

/-- an operation is admissible on a set of `len` members: `randomLevel()` returns a value between 1 and
`SkipListMaxLevel`; the regenerated `sanitizeIndexes` yields ranks ≥ 1 (it does for all 64-bit arguments and
fewer than 2^62 members: `sanitize_pos`, `C20_sanitize_positive`) -/
def OpOk (len : Nat) : ZOp → Prop
  | .put _ _ _ lvl => 1 ≤ lvl ∧ lvl ≤ maxLevel
  | .remRange a b => 1 ≤ (ZSetA.sanitize len a b).1 ∧ 1 ≤ (ZSetA.sanitize len a b).2
  | _ => True

def OpsOk : St → List ZOp → Prop
  | _, [] => True
  | z, op :: rest => OpOk z.length op ∧ OpsOk (stepZ z op) rest

theorem step_refines (s : SL) (h : OInv s) (op : ZOp) (hl : OpOk (nodes s).length op) :
    OInv (stepSL s op) ∧ nodes (stepSL s op) = stepZ (nodes s) op ∧ outSL s op = outZ (nodes s) op := by
  cases op with
  | put k sc v lvl =>
    obtain ⟨a, b⟩ := put_refines h k sc v lvl hl.1 hl.2
    exact ⟨a, b, rfl⟩
  | rem k =>
    obtain ⟨a, b, c⟩ := remove_refines h k
    exact ⟨a, b, by simp only [outSL, outZ, c]⟩
  | popMin =>
    obtain ⟨a, b, c⟩ := popMin_refines h
    exact ⟨a, b, by simp only [outSL, outZ, c]⟩
  | popMax =>
    obtain ⟨a, b, c⟩ := popMax_refines h
    exact ⟨a, b, by simp only [outSL, outZ, c]⟩
  | remRange a b =>
    have hl' : 1 ≤ (ZSetA.sanitize s.length.toNat a b).1 ∧ 1 ≤ (ZSetA.sanitize s.length.toNat a b).2 := by
      rw [length_toNat h.inv]; exact hl
    exact getByRankRange_rm_refines h a b hl'

theorem history_refines : ∀ (ops : List ZOp) (s : SL) (z : St), OInv s → nodes s = z → OpsOk z ops →
    OInv (ops.foldl stepSL s) ∧ nodes (ops.foldl stepSL s) = ops.foldl stepZ z := by
  intro ops
  induction ops with
  | nil => intro s z h e _; exact ⟨h, e⟩
  | cons op rest ih =>
    intro s z h e hl
    subst e
    obtain ⟨a, b, _⟩ := step_refines s h op hl.1
    simp only [List.foldl_cons]
    exact ih _ _ a b hl.2

/-- **C07, the skiplist.** For every sequence of `Put`, `Remove`, `PopMin`, `PopMax` and
`GetByRankRange(…, remove)` from the empty sorted set, whatever levels the random generator draws: the members
of the skiplist in level-0 order are the node list after the same operations (ordered by score then key, keys
distinct), the structure is well-formed — header of 32 levels, `1 ≤ level ≤ 32`, `length` = number of members,
every member has between 1 and `level` levels — and **every stored span below `level` is the distance to the
next tower that has that level** (to the end of the list when there is none; the header's spans at or above
`level` are whatever the last removal left). -/
theorem C07_skiplist_refines_sorted_list (ops : List ZOp) (hl : OpsOk [] ops) :
    nodes (ops.foldl stepSL Skiplist.empty) = ops.foldl stepZ [] ∧
    ZOrd.Sorted (nodes (ops.foldl stepSL Skiplist.empty)) ∧
    ((nodes (ops.foldl stepSL Skiplist.empty)).map (·.key)).Nodup ∧
    Inv (ops.foldl stepSL Skiplist.empty) := by
  obtain ⟨a, b⟩ := history_refines ops Skiplist.empty [] oinv_empty rfl hl
  exact ⟨b, a.sorted, a.keys, a.inv⟩

/-- … every mutating operation returns what the list operation returns (the removed node, the popped minimum
or maximum, the removed rank range in order; nothing when there is none) … -/
theorem C07_skiplist_results (ops : List ZOp) (hl : OpsOk [] ops) (op : ZOp)
    (ho : OpOk (ops.foldl stepZ []).length op) :
    outSL (ops.foldl stepSL Skiplist.empty) op = outZ (ops.foldl stepZ []) op := by
  obtain ⟨a, b⟩ := history_refines ops Skiplist.empty [] oinv_empty rfl hl
  rw [← b] at ho ⊢
  exact (step_refines _ a op ho).2.2

/-- … and **every query answers from the skiplist what the list answers**, for every argument: `GetByKey`,
`FindRank` (1-based index, 0 when absent), `FindRevRank`, `GetByRankRange` without removal (negative and
reversed ranks included), `GetByScoreRange` (both directions, exclusive bounds, limit), `PeekMin`, `PeekMax`. -/
theorem C07_skiplist_queries (ops : List ZOp) (hl : OpsOk [] ops) :
    let s := ops.foldl stepSL Skiplist.empty
    let z := ops.foldl stepZ []
    (∀ k, Skiplist.find? s k = ZSetA.find? z k) ∧
    (∀ k, Skiplist.findRank s k = ((ZSetA.rankOf z k : Nat) : Int)) ∧
    (∀ k, Skiplist.findRevRank s k = if z.isEmpty || ZSetA.rankOf z k == 0 then 0 else (z.length : Int) - (ZSetA.rankOf z k : Nat) + 1) ∧
    (∀ a b, 1 ≤ (ZSetA.sanitize z.length a b).1 ∧ 1 ≤ (ZSetA.sanitize z.length a b).2 →
      (Skiplist.getByRankRange s a b false).1 = s ∧
      (Skiplist.getByRankRange s a b false).2 = (ZSetA.getByRankRange z a b false).1) ∧
    (∀ a b limit exA exB, Skiplist.getByScoreRange s a b limit exA exB = ZSetA.getByScoreRange z a b limit exA exB) ∧
    Skiplist.peekMin s = z.head? ∧ Skiplist.peekMax s = z.getLast? := by
  intro s z
  obtain ⟨a, b⟩ := history_refines ops Skiplist.empty [] oinv_empty rfl hl
  have hb : nodes s = z := b
  refine ⟨?_, ?_, ?_, ?_, ?_, ?_, ?_⟩
  · intro k; rw [← hb]; exact find_eq s k
  · intro k; rw [← hb]; exact findRank_refines a k
  · intro k; rw [← hb]; exact findRevRank_refines a k
  · intro x y hpos
    have hpos' : 1 ≤ (ZSetA.sanitize s.length.toNat x y).1 ∧ 1 ≤ (ZSetA.sanitize s.length.toNat x y).2 := by
      rw [length_toNat a.inv, hb]; exact hpos
    rw [← hb]
    exact getByRankRange_ro_refines a x y hpos'
  · intro x y l e1 e2; rw [← hb]; exact getByScoreRange_refines a x y l e1 e2
  · rw [← hb]; exact peekMin_refines a.inv
  · rw [← hb]; exact peekMax_refines s

/-- **regenerated tie of the skiplist model.** The statements of ds/zset/sortedset.go that compute with spans,
`rank[]` and `traversed`, the conditions of its search loops and its score tests — the lines
`Nuts.Model.Skiplist` renders as functions — are, on this run, exactly the expected ones
(`NutsProofs.Facts.expectedSpanStmts`): a change to the arithmetic or to a comparison breaks this obligation
whether or not a generated history reaches it. -/
theorem C07_span_arithmetic_regenerated : NutsGen.F.spanStmts = NutsProofs.Facts.expectedSpanStmts :=
  NutsProofs.Facts.span_arithmetic_ok

open Nuts.Model.DB NutsProofs.ReopenAll NutsProofs.Isolation in
/-- **C07, sorted sets through transactions, every history.** After any history of successfully committed
transactions over all four structures, with reopens (key+value mode), the sorted set of bucket `b` is what the
committed sorted-set records of that bucket produce, applied in commit order to the empty set: `ZAdd` =
`ZSetA.put`, `ZRem` = `remove`, `ZRemRangeByRank` = `getByRankRange … true`, `ZPopMax` / `ZPopMin` = the pops —
the list operations the skiplist is proved to refine above — whatever other buckets and structures did in
between. -/
theorem C07_zsets_after_every_history (opt0 : Opts) (ops : List OpA) (hok : OpsOkA (openDB opt0 []).1 ops) (b : Bytes) :
    let s := ops.foldl stepA (openDB opt0 []).1
    (aget? s.zsets b).getD [] =
      ((((allRecs s.files).map (·.1)).filter fun r => r.bucket == b).filter fun r => r.ds == dsZSet).foldl
        (fun z r => (applyZSet z r false).1) [] := by
  intro s
  exact (structures_of_own_records s (allInv_ops ops _ (allInv_init opt0) hok) b).2.2

def wOps : List ZOp := [.put [98] 1 [1] 1, .put [97] 1 [2] 3, .put [99] 0 [3] 2, .put [98] 5 [4] 2, .rem [97], .remRange (-1) 5, .popMin]

/-- non-vacuity: a history with towers of 1, 3 and 2 levels, a tie on the score, a re-scored member, a removal,
a rank-range removal with a negative rank and a pop; the members and the spans the model computes (header
first) -/
theorem C07_witness_skiplist :
    OpsOk [] wOps ∧
    (nodes ((wOps.take 5).foldl stepSL Skiplist.empty)).map (·.key) = [[99], [98]] ∧
    (nodes (wOps.foldl stepSL Skiplist.empty)).map (·.key) = [] ∧
    (nodes ((wOps.take 4).foldl stepSL Skiplist.empty)).map (·.key) = [[99], [97], [98]] ∧
    (((wOps.take 4).foldl stepSL Skiplist.empty).all.map (·.spans.take 3)) = [[1, 1, 2], [1, 1], [1, 1, 1], [0, 0]] := by
  -- one evaluation for the four states: they are prefixes of one another, and the kernel shares what it has reduced
  refine ⟨?_, by decide +kernel⟩
  refine ⟨⟨by decide, by decide⟩, ⟨by decide, by decide⟩, ⟨by decide, by decide⟩, ⟨by decide, by decide⟩, trivial, ?_, trivial, trivial⟩
  constructor <;> decide +kernel

/-- **regenerated tie.** On this run, the sorted-set calls of the transactional API (which record each queues, the
score encoding in the key, the checks against the committed sorted set, the arguments handed to the skiplist
for the rank and score ranges) and `tx.put` are the source lines `Nuts.Model.Tx` was written from
(`NutsProofs.Facts.expectedTxApiCore`, `expectedTxApiZset`). -/
theorem C07_tx_api_regenerated :
    NutsProofs.Facts.txApiOfCore = NutsProofs.Facts.expectedTxApiCore ∧
    NutsProofs.Facts.txApiOfZset = NutsProofs.Facts.expectedTxApiZset :=
  ⟨NutsProofs.Facts.tx_api_core_ok, NutsProofs.Facts.tx_api_zset_ok⟩

end NutsProofs.C07
