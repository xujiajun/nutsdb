/-
  Property C02 — key/value reads match an ordered map in sparse B+ tree index mode.

  Model: Nuts.Model.Sparse (segment-content level; the on-disk node files are abstracted to the content of
  the tree they were written from — validated by the correspondence suite `db-sparse`, which compares every
  Get / GetAll / RangeScan / PrefixScan / PrefixSearchScan of generated histories, with rotations every few
  records and clean reopens, with this model).

  The property is only partly true of the code; what is proved, and the findings that bound it:
    * `C02_get_active_first`, `C02_get_newest_segment_decides` — `Get` consults the active tree first and then
      the sealed segments from the newest to the oldest, and the first segment that holds the composite key
      decides: the newest version of a key wins, a tombstone in a newer segment hides an older put;
    * `C02_range_test_misses_exactly_nested` — the segment selection of `RangeScan` (as coded: "first or last
      key of the segment lies in the scanned range") selects a segment that overlaps the scanned range **unless
      the segment's range strictly contains it** — exactly then data in older segments is invisible
      (finding D-SPARSE-RANGE, witness `C02_witness_range_miss`);
    * `C02_witness_concat` — composite keys `bucket ++ key` of different buckets collide (finding
      D-SPARSE-CONCAT): `Get("a","bc")` answers with the record of `("ab","c")`;
    * `C02_get_is_latest_of_composite_key`, `C02_get_single_bucket` — along every history of commits and clean
      reopens `Get` returns the latest record written under the composite key; in a single-bucket database that
      is the ordered map with TTL;
    * `treeInsert_sorted` — an insertion keeps the active tree's key sequence strictly ascending (the fact that
      makes in-range / prefix blocks contiguous; it is not lifted to `commit` here).
  Recorded findings that the correspondence keeps reproducing (signatures in Nuts/Driver/Sparse.lean):
  D-SPARSE-PAGE (offset/limit per segment, no-limit scans skip sealed segments, a page filled from the
  active tree is returned unfiltered), D-SPARSE-META (GetAll scans the persisted meta range, which only the
  last record's bucket of a transaction gets widened).
-/
import Nuts.Model.Sparse
import Nuts.Model.Tx
import NutsProofs.Lemmas.Assoc
import NutsProofs.Lemmas.Bytes
import NutsProofs.Lemmas.SparseGet
import NutsProofs.Pins.ReadPath
namespace NutsProofs.C02
open Nuts Nuts.Model Nuts.Model.DB Nuts.Model.Sparse

/-- the active tree is consulted first: a committed, readable entry there decides -/
theorem C02_get_active_first (s : SState) (b k : Bytes) (now : Nat) (i : Idx) (r : Rec)
    (hi : aget? s.active (b ++ k) = some i) (hc : s.activeTx.contains i.r.txid = true)
    (hr : readRec s i = .ok (some r)) :
    Sparse.get s b k now = if dead r now then .err else .ok (some r) :=
  SparseGet.get_active_hit s b k now i r hi hc hr

/-- segments that do not hold the composite key are passed over (`SparseGet.getOnDisk_skip`), and the first
(newest) segment that holds it, inside its key range, decides: a tombstone or an
expired entry ends the search with "not found" — older versions stay hidden — and a live entry is
returned when its transaction is committed. -/
theorem C02_get_newest_segment_decides (s : SState) (nk : Bytes) (now : Nat) (newer : List Seg) (g : Seg) (older : List Seg)
    (hnewer : ∀ x ∈ newer, aget? x.content nk = none)
    (i : Idx) (r : Rec) (hi : aget? g.content nk = some i) (hrange : inRange nk g.first g.last = true)
    (hr : readAt s.files s.seg g.fid i.pos = .ok (some r)) :
    getOnDisk s nk now (newer ++ g :: older) =
      if dead r now then .err
      else if s.activeTx.contains r.txid || g.txids.contains r.txid then .ok (some r) else .err := by
  induction newer with
  | nil => exact SparseGet.getOnDisk_hit s nk now g older i r hrange hi hr
  | cons x rest ih =>
    rw [List.cons_append, SparseGet.getOnDisk_skip s nk now x _ (hnewer x (List.mem_cons_self ..))]
    exact ih fun y hy => hnewer y (List.mem_cons_of_mem _ hy)

/-! ### RangeScan's segment selection -/

def le (a b : Bytes) : Prop := bcmp a b ≠ .gt
def lt (a b : Bytes) : Prop := bcmp a b = .lt

theorem le_of_lt {a b : Bytes} (h : lt a b) : le a b := by unfold le lt at *; rw [h]; simp

theorem le_total (a b : Bytes) : le a b ∨ lt b a := by
  unfold le lt
  cases h : bcmp a b
  · left; simp
  · left; simp
  · right; exact (NutsProofs.bcmp_gt_iff_lt a b).mp h

theorem lt_irrefl_le {a b : Bytes} (h1 : le a b) (h2 : lt b a) : False := by
  unfold le lt at *
  exact h1 ((NutsProofs.bcmp_gt_iff_lt a b).mpr h2)

theorem rangeSelects_eq (ns ne : Bytes) (g : Seg) :
    rangeSelects ns ne g = true ↔ (le ns g.first ∧ le g.first ne) ∨ (le ns g.last ∧ le g.last ne) := by
  unfold rangeSelects le
  simp [bne_iff_ne]

/-- **The as-coded overlap test.** It never selects a segment wrongly, and among the segments whose key
range `[first, last]` overlaps the scanned range `[ns, ne]` it misses exactly those whose range strictly
contains the scanned one. -/
theorem C02_range_test_misses_exactly_nested (ns ne : Bytes) (g : Seg) (hseg : le g.first g.last) (hscan : le ns ne) :
    (rangeSelects ns ne g = true → le g.first ne ∧ le ns g.last) ∧
    (le g.first ne ∧ le ns g.last → rangeSelects ns ne g = false → lt g.first ns ∧ lt ne g.last) := by
  have trans : ∀ {a b c : Bytes}, le a b → le b c → le a c := NutsProofs.bcmp_le_trans
  constructor
  · intro h
    rcases (rangeSelects_eq ns ne g).mp h with ⟨h1, h2⟩ | ⟨h1, h2⟩
    · exact ⟨h2, trans h1 hseg⟩
    · exact ⟨trans hseg h2, h1⟩
  · intro ⟨hov1, hov2⟩ hsel
    have hn : ¬ ((le ns g.first ∧ le g.first ne) ∨ (le ns g.last ∧ le g.last ne)) := by
      intro h; rw [(rangeSelects_eq ns ne g).mpr h] at hsel; cases hsel
    constructor
    · rcases le_total ns g.first with h | h
      · exact absurd (Or.inl ⟨h, hov1⟩) hn
      · exact h
    · rcases le_total g.last ne with h | h
      · exact absurd (Or.inr ⟨hov2, h⟩) hn
      · exact h

/-! ### witnesses -/

def put (s : SState) (b k v : Bytes) (id : Nat) : SState := (Sparse.commit s [{ (mkRec b k v flagSet dsKV) with txid := id }]).1

/-- D-SPARSE-CONCAT: two buckets whose composite keys coincide -/
def wConcat : SState := put (put (Sparse.openDB 1000 [] [] []).1 [97] [98, 99] [49] 1) [97, 98] [99] [50] 2

theorem C02_witness_concat : (Sparse.get wConcat [97] [98, 99] 0).map (fun o => o.map fun r => (r.bucket, r.key, r.value)) = .ok (some ([97, 98], [99], [50])) := by
  decide +kernel

/-- D-SPARSE-RANGE: keys k1 … k4 in a 200-byte segment that gets sealed; a scan of [k2, k3] lies strictly
inside the sealed segment's range and finds nothing although k2 and k3 are live -/
def wRange : SState :=
  let s0 := (Sparse.openDB 200 [] [] []).1
  let s1 := put s0 [97] [107, 49] [120] 1
  let s2 := put s1 [97] [107, 52] [120] 2
  let s3 := put s2 [97] [107, 50] [120] 3
  let s4 := put s3 [97] [107, 51] [120] 4
  put s4 [97] [122] [120] 5

theorem C02_witness_range_miss :
    wRange.sealed.length = 1 ∧ Sparse.rangeScan wRange [97] [107, 50] [107, 51] 0 = .err ∧
    (Sparse.get wRange [97] [107, 50] 0).isOk = true ∧ (Sparse.get wRange [97] [107, 51] 0).isOk = true := by
  decide +kernel

theorem treeInsert_sorted (s : SState) (k : Bytes) (i : Idx) (h : NutsProofs.Sorted s.active) : NutsProofs.Sorted (treeInsert s k i).active :=
  NutsProofs.upsert_sorted _ _ _ h

/-! ### `Get` along every history -/

/-- histories: write transactions of key/value records, and clean reopens (with any segment size) -/
inductive SOp where
  | commit (t : List Rec)
  | reopen (seg : Nat)

def stepS (s : SState) : SOp → SState
  | .commit t => (Sparse.commit s t).1
  | .reopen g => (Sparse.openDB g s.files s.sealed s.metas).1

open NutsProofs.SparseGet in
/-- every transaction has one id, no empty key, and its `Commit` returned success -/
def SOpsOk : SState → List SOp → Prop
  | _, [] => True
  | s, .commit t :: rest => t ≠ [] ∧ (∃ tid, KVTx tid t) ∧ (Sparse.commit s t).2 = .ok () ∧ SOpsOk (Sparse.commit s t).1 rest
  | s, .reopen g :: rest => SOpsOk (Sparse.openDB g s.files s.sealed s.metas).1 rest

open NutsProofs.SparseGet in
theorem good_history : ∀ (ops : List SOp) (s : SState), Good s → SOpsOk s ops → Good (ops.foldl stepS s) := by
  intro ops
  induction ops with
  | nil => intro s h _; exact h
  | cons op rest ih =>
    intro s h hok
    cases op with
    | commit t =>
      obtain ⟨hne, ⟨tid, htx⟩, hc, hrest⟩ := hok
      exact ih _ (commit_inv s t tid h hne htx hc).1 hrest
    | reopen g => exact ih _ (reopen_good s h g) hok

open NutsProofs.SparseGet in
/-- **C02, `Get`, every history.** Take any sequence of successfully committed key/value transactions and clean
reopens on a fresh sparse-mode database — any number of records per transaction, any segment size (it may change
at a reopen), rotations wherever they fall (inside a transaction too). Then `Get(bucket, key)` returns the
**latest record written under the composite key `bucket ++ key`** — searching the active tree, then the sealed
segments newest first through their key ranges — when that record is live at `now`, and "not found" when there
is none or it is a tombstone or has expired. Key ranges, per-segment transaction-id sets, the rebuild of the
active tree at `Open` and the read-back from the data file are all inside the theorem; the composite key is the
exact content of finding D-SPARSE-CONCAT: for databases in which no two (bucket, key) pairs concatenate to the
same bytes this *is* the ordered map with TTL. -/
theorem C02_get_is_latest_of_composite_key (seg : Nat) (ops : List SOp)
    (hok : SOpsOk (Sparse.openDB seg [] [] []).1 ops) (b k : Bytes) (now : Nat) :
    let s := ops.foldl stepS (Sparse.openDB seg [] [] []).1
    Sparse.get s b k now = match latestFile s.files.reverse (b ++ k) with
      | some r => judged r now
      | none => .err := by
  intro s
  exact get_spec s (good_history ops _ (good_init seg) hok).1 b k now

open NutsProofs.SparseGet in
/-- **C02 as the property states it, for `Get`.** In a database all of whose records belong to one bucket `b` —
the single-bucket histories the property quantifies over, where composite keys are unambiguous — `Get(b, k)`
after any history of successful commits and clean reopens is the **last record written under key `k`** in the
whole log (files in id order, records in write order): its value when it is a live put, "not found" when it is
a tombstone, has expired, or no such record exists. Data that lives only in sealed segments is as visible as
data in the active one. -/
theorem C02_get_single_bucket (seg : Nat) (ops : List SOp) (hok : SOpsOk (Sparse.openDB seg [] [] []).1 ops)
    (b k : Bytes) (now : Nat)
    (hb : ∀ x ∈ allRecs (ops.foldl stepS (Sparse.openDB seg [] [] []).1).files, x.1.bucket = b) :
    Sparse.get (ops.foldl stepS (Sparse.openDB seg [] [] []).1) b k now =
      match lastInLog (ops.foldl stepS (Sparse.openDB seg [] [] []).1).files (fun r => r.ds == dsKV && r.key == k) with
      | some r => judged r now
      | none => .err := by
  rw [C02_get_is_latest_of_composite_key seg ops hok b k now, latestFile_eq,
    lastInLog_congr (q' := fun r => r.ds == dsKV && r.key == k)]
  intro x hx
  show (x.1.ds == dsKV && x.1.bucket ++ x.1.key == b ++ k) = _
  rw [hb x hx, Bool.eq_iff_iff]
  simp only [Bool.and_eq_true, beq_iff_eq, List.append_cancel_left_eq]

/-- **regenerated tie of the read path.** The conditions of tx_bptree.go the sparse model renders — the
in-memory-first order, `SortFID` newest first, the segment range test of `Get`
(`compare(newKey, start) >= 0 && compare(newKey, end) <= 0`), the as-coded overlap test of `rangeScanOnDisk`, the
dead-record tests, the dedupe / filter of `processEntriesScanOnDisk`, the limit tests of the prefix scans — are,
on this run, the expected lines (`NutsProofs.Facts.expectedReadPathStmts`). -/
theorem C02_read_path_regenerated : NutsGen.F.readPathStmts = NutsProofs.Facts.expectedReadPathStmts :=
  NutsProofs.Facts.read_path_ok

/-- a history that rotates three times (100-byte segments), overwrites a key across segments and deletes one -/
def wHist : List SOp :=
  [.commit [{ (mkRec [97] [107, 49] [120] flagSet dsKV) with txid := 1 }],
   .commit [{ (mkRec [97] [107, 50] [120] flagSet dsKV) with txid := 2 }, { (mkRec [97] [107, 51] [120] flagSet dsKV) with txid := 2 }],
   .commit [{ (mkRec [97] [107, 49] [121] flagSet dsKV) with txid := 3 }, { (mkRec [97] [107, 52] [120] flagSet dsKV) with txid := 3 }],
   .reopen 100,
   .commit [{ (mkRec [97] [107, 50] [] flagDelete dsKV) with txid := 4 }, { (mkRec [97] [107, 53] [120] flagSet dsKV) with txid := 4 }],
   .commit [{ (mkRec [97] [107, 54] [120] flagSet dsKV) with txid := 5 }]]

/-- non-vacuity: the history above meets the hypotheses, seals three segments (100-byte segments, two records
each; transactions span rotations), reopens in the middle, and `Get` answers across the segments -/
theorem C02_witness_history :
    SOpsOk (Sparse.openDB 100 [] [] []).1 wHist ∧
    ((wHist.foldl stepS (Sparse.openDB 100 [] [] []).1).sealed.map (·.fid)) = [0, 1, 2] ∧
    (Sparse.get (wHist.foldl stepS (Sparse.openDB 100 [] [] []).1) [97] [107, 49] 0).map
      (fun o => o.map (·.value)) = .ok (some [121]) ∧
    Sparse.get (wHist.foldl stepS (Sparse.openDB 100 [] [] []).1) [97] [107, 50] 0 = .err := by
  refine ⟨?_, by decide +kernel, by decide +kernel, by decide +kernel⟩
  refine ⟨by simp, ⟨1, ?_⟩, by decide +kernel, by simp, ⟨2, ?_⟩, by decide +kernel, by simp, ⟨3, ?_⟩, by decide +kernel,
    by simp, ⟨4, ?_⟩, by decide +kernel, by simp, ⟨5, ?_⟩, by decide +kernel, trivial⟩
  all_goals
    intro r hr
    simp only [List.mem_cons, List.mem_nil_iff, or_false] at hr
    rcases hr with rfl | rfl <;> exact ⟨rfl, by decide⟩

end NutsProofs.C02
