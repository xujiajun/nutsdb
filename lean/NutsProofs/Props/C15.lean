/-
  C15 — Merge does not change the logical contents.
  False of the code for lists (and in several other situations, finding family D-MERGE): the witness
  below is the model's own computation, replayed on the implementation by corpus/D-MERGE.ops. True of key/value
  data, after every history: a Merge that does not remove the file it writes to leaves the visible index
  (`C15_merge_keeps_kv_index`) and, in key+value mode, every key/value read at every later time
  (`C15_merge_keeps_kv_reads`) and the reads after a reopen (`C15_merge_then_reopen_keeps_kv_reads`) as they were; the excluded case is finding D-MERGE-ACTIVE
  (`C15_witness_active_file_removed`).
-/
import Nuts.Model.Tx
import NutsProofs.Lemmas.MergeKV
import NutsProofs.Lemmas.MergeReads
import NutsProofs.Lemmas.MergeReopen
import NutsProofs.Facts
import NutsProofs.Pins.Merge
namespace NutsProofs.C15
open Nuts Nuts.Model Nuts.Model.DB

/-- list `[x, y]` in one segment, a KV record in a second one (Merge needs two files) -/
def s0 : State :=
  let a := (commit (openDB { seg := 100 } []).1
    [{ (mkRec [97] [97] [120] flagRPush dsList) with txid := 1 }, { (mkRec [97] [97] [121] flagRPush dsList) with txid := 1 }]).1
  (commit a [{ (mkRec [98] [107] [120] flagSet dsKV) with txid := 2 }]).1

/-- Witness of D-MERGE (lists): the rewrite transaction re-applies the pushes to the live index. -/
theorem C15_witness_list_duplicated :
    (aget? s0.lists [97]).bind (ListDS.get? · [97]) = some [[120], [121]] ∧
    (aget? (merge s0 0 [10, 11]).1.lists [97]).bind (ListDS.get? · [97]) = some [[120], [121], [120], [121]] := by
  decide

/-- Merge never rewrites a record whose flag is a removal or whose TTL has run out. -/
theorem isFilter_removal (r : Rec) (now : Nat)
    (h : r.flag = flagDelete ∨ r.flag = flagLPop ∨ r.flag = flagRPop ∨ r.flag = flagLRem ∨ r.flag = flagLTrim ∨
         r.flag = flagZRem ∨ r.flag = flagZRemRangeByRank ∨ r.flag = flagZPopMax ∨ r.flag = flagZPopMin) :
    isFilter r now = true := by
  unfold isFilter
  rcases h with h | h | h | h | h | h | h | h | h <;> simp [h]

theorem merge_needs_two_files (s : State) (now : Nat) (ids : List Nat) (h : s.files.length < 2) :
    merge s now ids = (s, .err) := by
  simp [merge, h]

/-! ### Merge removes the active file when nothing is live (finding family D-MERGE) -/

/-- three keys written over two segments and then deleted: every record on disk is dead -/
def dead0 : State :=
  let v : Bytes := List.replicate 40 120
  let a := (commit (openDB { seg := 200 } []).1
    [{ (mkRec [97] [107, 49] v flagSet dsKV) with txid := 1 }, { (mkRec [97] [107, 50] v flagSet dsKV) with txid := 1 },
     { (mkRec [97] [107, 51] v flagSet dsKV) with txid := 1 }]).1
  (commit a [{ (mkRec [97] [107, 49] [] flagDelete dsKV) with txid := 2 }, { (mkRec [97] [107, 50] [] flagDelete dsKV) with txid := 2 },
             { (mkRec [97] [107, 51] [] flagDelete dsKV) with txid := 2 }]).1

/-- the state after that Merge and one more committed `Put` -/
def dead1 : State :=
  (commit (merge dead0 0 []).1 [{ (mkRec [97] [107, 52] [122] flagSet dsKV) with txid := 3 }]).1

/-- Witness (replayed on the implementation by corpus/D-MERGE-ACTIVE.ops): a Merge that finds nothing to
rewrite removes every data file, the active one included; the transaction committed afterwards is in
the index but in no file of the directory, and `Open` on that directory does not have the key. -/
theorem C15_witness_active_file_removed :
    dead0.files.length = 3 ∧ (merge dead0 0 []).2 = .ok () ∧ (merge dead0 0 []).1.files = [] ∧
    ((aget? dead1.kv [97]).bind (aget? · [107, 52])).isSome = true ∧ dead1.files = [] ∧
    ((aget? (openDB { seg := 200 } dead1.files).1.kv [97]).bind (aget? · [107, 52])).isSome = false := by
  decide

/-! ### Merge on key/value databases, for every history

Merge works under the invariant `MergeKV.MInv`: states reached by key/value histories have it
(`minv_of_logInv`) and Merge keeps it (`Lemmas/MergeKV.lean`). -/

open NutsProofs.Reopen NutsProofs.KVRefine NutsProofs.MergeKV in
/-- **C15 (key/value databases, in process, every history).** After any history of key/value write
transactions and reopens, whose records fit the segment size in force, call `Merge` (at any clock value, with
any transaction ids for its rewrites). Then: with fewer than two data files it fails and changes nothing;
otherwise, unless it ends with the active file unlinked (the recorded finding D-MERGE-ACTIVE: no file held a
live record), it succeeds and leaves the index of every bucket with the same keys in the same order and the
same value, timestamp, TTL and flag under each key — so deleted, expired and overwritten records are not
resurrected and nothing live is lost — every entry's transaction committed, and the options unchanged; and the
state it leaves satisfies the invariant again, so the statement applies to a second Merge as well. -/
theorem C15_merge_keeps_kv_index (opt0 : Opts) (ops : List Op) (hok : OpsOk (openDB opt0 []).1 ops)
    (hrec : OpsRecOk ops)
    (hsz : ∀ x ∈ allRecs (ops.foldl stepOp (openDB opt0 []).1).files, ¬ x.1.size > (ops.foldl stepOp (openDB opt0 []).1).opt.seg)
    (now : Nat) (txids : List Nat) :
    let s := ops.foldl stepOp (openDB opt0 []).1
    (s.files.length < 2 → merge s now txids = (s, .err)) ∧
    (¬ s.files.length < 2 → (merge s now txids).1.activeUnlinked = false →
      (merge s now txids).2 = .ok () ∧ MInv (merge s now txids).1 now ∧
      visKV (merge s now txids).1.kv = visKV s.kv ∧
      (∀ id, id ∈ s.committed → id ∈ (merge s now txids).1.committed) ∧
      (merge s now txids).1.opt = s.opt) := by
  exact merge_spec _ now txids (minv_of_ops opt0 ops hok hrec hsz now)

open NutsProofs.MergeKV in
/-- … and again: Merge after Merge (the invariant is all the statement needs) -/
theorem C15_merge_again (s : State) (now now' : Nat) (txids : List Nat) (h : MInv s now) (hnow : now = now') :
    ¬ s.files.length < 2 → (merge s now' txids).1.activeUnlinked = false →
      (merge s now' txids).2 = .ok () ∧ visKV (merge s now' txids).1.kv = visKV s.kv := by
  subst hnow
  intro h2 hl
  obtain ⟨h1, _, h3, _, _⟩ := (merge_spec s now txids h).2 h2 hl
  exact ⟨h1, h3⟩

open NutsProofs.Reopen NutsProofs.KVRefine NutsProofs.MergeKV in
/-- **C15 (reads, key+value mode, every history).** Under the hypotheses of `C15_merge_keeps_kv_index`, in
`HintKeyValAndRAMIdxMode`: after a Merge that succeeded (did not end with the active file unlinked), `Get`,
`GetAll`, `RangeScan`, `PrefixScan` and `PrefixSearchScan` — every bucket, key, range, prefix, offset, limit,
match predicate, and every clock value, earlier or later than the one Merge ran at — return records with the
same value, timestamp, TTL and flag as before it, and fail exactly when they failed before. -/
theorem C15_merge_keeps_kv_reads (opt0 : Opts) (ops : List Op) (hok : OpsOk (openDB opt0 []).1 ops)
    (hrec : OpsRecOk ops)
    (hsz : ∀ x ∈ allRecs (ops.foldl stepOp (openDB opt0 []).1).files, ¬ x.1.size > (ops.foldl stepOp (openDB opt0 []).1).opt.seg)
    (hm : (ops.foldl stepOp (openDB opt0 []).1).opt.mode = 0)
    (now : Nat) (txids : List Nat)
    (h2 : ¬ (ops.foldl stepOp (openDB opt0 []).1).files.length < 2)
    (hl : (merge (ops.foldl stepOp (openDB opt0 []).1) now txids).1.activeUnlinked = false) :
    let s := ops.foldl stepOp (openDB opt0 []).1
    let s' := (merge s now txids).1
    (∀ b k t, showO (DB.get s' b k t) = showO (DB.get s b k t)) ∧
    (∀ b t, showL (getAll s' b t) = showL (getAll s b t)) ∧
    (∀ b st en t, showL (rangeScan s' b st en t) = showL (rangeScan s b st en t)) ∧
    (∀ b pre off lim t mt, showL (prefixScan s' b pre off lim t mt) = showL (prefixScan s b pre off lim t mt)) := by
  intro s s'
  have hminv := minv_of_ops opt0 ops hok hrec hsz now
  obtain ⟨_, hminv', hvis, _, hopt⟩ := (merge_spec s now txids hminv).2 h2 hl
  exact reads_of_visKV s s' hm (hopt ▸ hm) hvis hminv.committedIdx hminv'.committedIdx

open NutsProofs.Reopen NutsProofs.KVRefine NutsProofs.MergeKV in
/-- **C15 (Merge, then reopen; key+value mode, every history).** Under the hypotheses of
`C15_merge_keeps_kv_index`: after a successful Merge at clock value `now`, close and `Open` again in key+value
mode. `Open` succeeds, and `Get`, `GetAll`, `RangeScan`, and `PrefixScan` / `PrefixSearchScan` without offset
and limit return at every time `t ≥ now` the values and (key, value) pairs they returned *before the Merge* at
`t`: deleted, expired and overwritten records are not resurrected by the reopen either (the rebuilt index is the
old one minus entries that are dead), nothing live is lost. (Paged scans are not covered: the dead entries that
vanish at the reopen no longer consume offset and limit — finding D-SCAN-DEAD.) -/
theorem C15_merge_then_reopen_keeps_kv_reads (opt0 : Opts) (ops : List Op) (hok : OpsOk (openDB opt0 []).1 ops)
    (hrec : OpsRecOk ops)
    (hsz : ∀ x ∈ allRecs (ops.foldl stepOp (openDB opt0 []).1).files, ¬ x.1.size > (ops.foldl stepOp (openDB opt0 []).1).opt.seg)
    (hm : (ops.foldl stepOp (openDB opt0 []).1).opt.mode = 0)
    (now : Nat) (txids : List Nat)
    (h2 : ¬ (ops.foldl stepOp (openDB opt0 []).1).files.length < 2)
    (hl : (merge (ops.foldl stepOp (openDB opt0 []).1) now txids).1.activeUnlinked = false)
    (opt : Opts) (hmo : opt.mode = 0) (t : Nat) (hle : now ≤ t) (ht : t < 2 ^ 64) (b : Bytes) :
    let s := ops.foldl stepOp (openDB opt0 []).1
    let s2 := (openDB opt (merge s now txids).1.files).1
    (openDB opt (merge s now txids).1.files).2 = .ok () ∧
    (∀ k, (DB.get s2 b k t).map (Option.map (·.value)) = (DB.get s b k t).map (Option.map (·.value))) ∧
    ((getAll s2 b t).map pairsOf = (getAll s b t).map pairsOf) ∧
    (∀ st en, (rangeScan s2 b st en t).map pairsOf = (rangeScan s b st en t).map pairsOf) ∧
    (∀ pre mt, (prefixScan s2 b pre 0 (-1) t mt).map pairsOf = (prefixScan s b pre 0 (-1) t mt).map pairsOf) := by
  intro s s2
  have hminv := minv_of_ops opt0 ops hok hrec hsz now
  obtain ⟨_, hminv1, hvis, _, hopt⟩ := (merge_spec s now txids hminv).2 h2 hl
  exact reads_after_moves_reopen s _ now hminv hminv1 hm hopt hvis opt hmo t hle ht b

instance : DecidableEq (Bytes × (Bytes × Nat × Nat × Nat)) := inferInstance
instance : DecidableEq (List (Bytes × (Bytes × Nat × Nat × Nat))) := inferInstance
instance : DecidableEq (Bytes × List (Bytes × (Bytes × Nat × Nat × Nat))) := inferInstance
instance : DecidableEq (List (Bytes × List (Bytes × (Bytes × Nat × Nat × Nat)))) := inferInstance

/-- `Put(bucket a, key k, 16 bytes)` with transaction id `id` (60 bytes on disk) -/
def wPut (id k : Nat) : List Rec := [{ (mkRec [97] [k.toUInt8] (List.replicate 16 120) flagSet dsKV) with txid := id }]

open NutsProofs.Reopen NutsProofs.MergeKV in
/-- the theorem is not about nothing: three transactions over 100-byte segments leave three files, key 1
overwritten; Merge succeeds, keeps the active file linked, rewrites into new files — and the visible index is
the same (checked here by evaluating the model, as the theorem says it must be) -/
theorem C15_witness_merge :
    let ops := [Op.commit (wPut 1 1), .commit (wPut 2 2), .commit (wPut 3 1)]
    let s := ops.foldl stepOp (openDB { seg := 100 } []).1
    s.files.map (·.fid) = [0, 1, 2] ∧ (merge s 5 [10, 11, 12]).2 = .ok () ∧
    (merge s 5 [10, 11, 12]).1.activeUnlinked = false ∧
    (merge s 5 [10, 11, 12]).1.files.map (·.fid) = [3, 4] ∧
    visKV (merge s 5 [10, 11, 12]).1.kv = visKV s.kv := by
  intro ops s
  refine ⟨by decide +kernel, by decide +kernel, by decide +kernel, by decide +kernel, by decide +kernel⟩

/-- **regenerated tie of the record filter.** Which records Merge drops is decided by `isFilter`; the model's
`isFilter` is, for every record and every clock, the kernel regenerated from `DB.isFilterEntry` on this run
(`NutsProofs.Facts.isFilter_is_kernel`). The Merge theorems above are therefore about the filter the code has
now: a flag added to or removed from `isFilterEntry`, or a changed expiry test, breaks this obligation. -/
theorem C15_filter_is_regenerated (r : Rec) (now : Nat) :
    isFilter r now =
      ((NutsGen.K.db_isFilterEntry.run r.flag r.ttl r.ts (isExpired r.ttl r.ts now)
          r.flag r.flag r.flag r.flag r.flag r.flag r.flag r.flag).vals == [1]) :=
  NutsProofs.Facts.isFilter_is_kernel r now


/-- **regenerated tie.** `Merge`, its selection of the records to rewrite (filter, superseded test, per-structure liveness test), the rewrite transaction and the removal of the merged file are, on this run, the source lines the model of Merge was written from (`NutsProofs.Facts.expectedMergeStmts`). -/
theorem C15_merge_statements_regenerated : NutsGen.F.mergeStmts = NutsProofs.Facts.expectedMergeStmts :=
  NutsProofs.Facts.merge_stmts_ok

end NutsProofs.C15
