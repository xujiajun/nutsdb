/-
  NutsProofs.Pins.TxApi — the transactional API: tx.go (`put`, `checkTxIsClosed`) and the key/value writes of tx_bptree.go
-/
import NutsGen.Facts
import NutsProofs.Lemmas.Ascii
namespace NutsProofs.Facts
open NutsGen.F

def txApiOfCore : List (String × String × String) :=
  txApiStmts.filter (fun s => (s.1.toList.takeWhile (· != ':') == "tx.go".toList) || (s.1.toList.takeWhile (· != ':') == "tx_bptree.go".toList))

/-- the lines of tx.go (`put`, `checkTxIsClosed`) and the key/value writes of tx_bptree.go that `Nuts.Model.Tx` was written from: what each call validates against the committed
state and which record it queues -/
def expectedTxApiCore : List (String × String × String) := [
  ("tx.go:checkTxIsClosed", "if", "tx.db == nil"),
  ("tx.go:put", "call", "tx.checkTxIsClosed()"),
  ("tx.go:put", "if", "!tx.writable"),
  ("tx.go:put", "if", "len(key) == 0"),
  ("tx.go:put", "call", "append(tx.pendingWrites, &Entry{ Key: key, Value: value, Meta: &MetaData{ keySize: uint32(len(key)), valueSize: uint32(len(value)), timestamp: timestamp, Flag: flag, TTL: ttl, bucket: []byte(bucket), bucketSize: uint32(len(bucket)), status: UnCommitted, ds: ds, txID: tx.id, }, })"),
  ("tx_bptree.go:Delete", "call", "tx.checkTxIsClosed()"),
  ("tx_bptree.go:Delete", "return", "tx.put(bucket, key, nil, Persistent, DataDeleteFlag, uint64(time.Now().Unix()), DataStructureBPTree)")
]

theorem tx_api_core_ok : txApiOfCore = expectedTxApiCore := by
  rw [txApiOfCore, NutsProofs.toList_eq_fastToList]; decide +kernel

end NutsProofs.Facts
