/-
  NutsProofs.Pins.Backup — db.go: the shape of Backup
-/
import NutsGen.Facts
namespace NutsProofs.Facts
open NutsGen.F

/-- **`Backup` is one read transaction.** Regenerated from db.go: the body of `DB.Backup` outside the function
literal does nothing but call `db.View` (no file-system call, no other nutsdb call, no field of `*DB`), and the
literal handed to `View` calls `filesystem.CopyDir` and nothing else — so every byte Backup reads from the
directory is read while the read lock of the transaction is held. -/
theorem backup_under_read_lock : backupShape = (["DB.View"], [], ["filesystem.CopyDir"]) := rfl

end NutsProofs.Facts
