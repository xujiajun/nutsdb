/-
  NutsProofs.Pins.Closed — which exported `Tx` methods test for a finished transaction before touching `tx.db` (C12, C20)
-/
import NutsGen.Facts
namespace NutsProofs.Facts
open NutsGen.F

/-- exported Tx methods that dereference `tx.db` without first calling `checkTxIsClosed`:
`Commit`/`Rollback` test `tx.db == nil` themselves (the extractor's path-insensitive rule does not
see that). -/
def closedExceptions : List String := ["Commit", "Rollback"]

theorem closed_checks_ok :
    (closedChecks.filter (fun p => !p.2)).map (·.1) = closedExceptions := by
  decide +kernel

end NutsProofs.Facts
