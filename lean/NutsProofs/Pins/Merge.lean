/-
  NutsProofs.Pins.Merge — db.go: Merge and its helpers
-/
import NutsGen.Facts
namespace NutsProofs.Facts
open NutsGen.F

/-- the lines of `DB.Merge`, `getPendingMergeEntries`, `reWriteData`, `isFilterEntry`, `getRecordFromKey`, `getMaxFileIDAndFileIDs` that `Nuts.Model.Tx` (`mergeSelect`, `pendingMerge`, `rewrite`, `merge`) was written from -/
def expectedMergeStmts : List (String × String × String) := [
  ("db.go:Merge", "if", "db.opt.EntryIdxMode == HintBPTSparseIdxMode"),
  ("db.go:Merge", "return", "errors.New(\"not support mode `HintBPTSparseIdxMode`\")"),
  ("db.go:Merge", "call", "db.getMaxFileIDAndFileIDs()"),
  ("db.go:Merge", "if", "len(pendingMergeFIds) < 2"),
  ("db.go:Merge", "return", "errors.New(\"the number of files waiting to be merged is at least 2\")"),
  ("db.go:Merge", "range", "pendingMergeFIds"),
  ("db.go:Merge", "call", "NewDataFile(db.getDataPath(int64(pendingMergeFId)), db.opt.SegmentSize, db.opt.RWMode)"),
  ("db.go:Merge", "for", "; ; "),
  ("db.go:Merge", "call", "f.ReadAt(int(off))"),
  ("db.go:Merge", "if", "entry == nil"),
  ("db.go:Merge", "if", "db.isFilterEntry(entry)"),
  ("db.go:Merge", "if", "r != nil && !skipEntry"),
  ("db.go:Merge", "call", "db.getRecordFromKey(entry.Meta.bucket, entry.Key)"),
  ("db.go:Merge", "if", "r.H.fileID > int64(pendingMergeFId)"),
  ("db.go:Merge", "if", "r.H.fileID == int64(pendingMergeFId) && r.H.dataPos > uint64(off)"),
  ("db.go:Merge", "if", "skipEntry"),
  ("db.go:Merge", "call", "entry.Size()"),
  ("db.go:Merge", "if", "off >= db.opt.SegmentSize"),
  ("db.go:Merge", "call", "db.getPendingMergeEntries(entry, pendingMergeEntries)"),
  ("db.go:Merge", "call", "entry.Size()"),
  ("db.go:Merge", "if", "off >= db.opt.SegmentSize"),
  ("db.go:Merge", "if", "err == io.EOF"),
  ("db.go:Merge", "call", "f.rwManager.Close()"),
  ("db.go:Merge", "return", "fmt.Errorf(\"when merge operation build hintIndex readAt err: %s\", err)"),
  ("db.go:Merge", "call", "db.reWriteData(pendingMergeEntries)"),
  ("db.go:Merge", "call", "f.rwManager.Close()"),
  ("db.go:Merge", "call", "f.rwManager.Close()"),
  ("db.go:Merge", "return", "fmt.Errorf(\"when merge err: %s\", err)"),
  ("db.go:Merge", "call", "os.Remove(db.getDataPath(int64(pendingMergeFId)))"),
  ("db.go:Merge", "call", "f.rwManager.Close()"),
  ("db.go:Merge", "return", "fmt.Errorf(\"when merge err: %s\", err)"),
  ("db.go:Merge", "call", "f.rwManager.Close()"),
  ("db.go:getMaxFileIDAndFileIDs", "call", "ioutil.ReadDir(db.opt.Dir)"),
  ("db.go:getMaxFileIDAndFileIDs", "if", "len(files) == 0"),
  ("db.go:getMaxFileIDAndFileIDs", "range", "files"),
  ("db.go:getMaxFileIDAndFileIDs", "call", "f.Name()"),
  ("db.go:getMaxFileIDAndFileIDs", "call", "path.Ext(path.Base(id))"),
  ("db.go:getMaxFileIDAndFileIDs", "if", "fileSuffix != DataSuffix"),
  ("db.go:getMaxFileIDAndFileIDs", "call", "strings.TrimSuffix(id, DataSuffix)"),
  ("db.go:getMaxFileIDAndFileIDs", "call", "strconv2.StrToInt(id)"),
  ("db.go:getMaxFileIDAndFileIDs", "call", "append(dataFileIds, idVal)"),
  ("db.go:getMaxFileIDAndFileIDs", "if", "len(dataFileIds) == 0"),
  ("db.go:getMaxFileIDAndFileIDs", "call", "sort.Ints(dataFileIds)"),
  ("db.go:getMaxFileIDAndFileIDs", "call", "int64(dataFileIds[len(dataFileIds)-1])"),
  ("db.go:getPendingMergeEntries", "if", "entry.Meta.ds == DataStructureBPTree"),
  ("db.go:getPendingMergeEntries", "call", "db.BPTreeIdx[string(entry.Meta.bucket)].Find(entry.Key)"),
  ("db.go:getPendingMergeEntries", "if", "r.H.meta.Flag == DataSetFlag"),
  ("db.go:getPendingMergeEntries", "call", "append(pendingMergeEntries, entry)"),
  ("db.go:getPendingMergeEntries", "if", "entry.Meta.ds == DataStructureSet"),
  ("db.go:getPendingMergeEntries", "if", "db.SetIdx[string(entry.Meta.bucket)].SIsMember(string(entry.Key), entry.Value)"),
  ("db.go:getPendingMergeEntries", "call", "append(pendingMergeEntries, entry)"),
  ("db.go:getPendingMergeEntries", "if", "entry.Meta.ds == DataStructureSortedSet"),
  ("db.go:getPendingMergeEntries", "call", "strings.Split(string(entry.Key), SeparatorForZSetKey)"),
  ("db.go:getPendingMergeEntries", "if", "len(keyAndScore) == 2"),
  ("db.go:getPendingMergeEntries", "call", "db.SortedSetIdx[string(entry.Meta.bucket)].GetByKey(key)"),
  ("db.go:getPendingMergeEntries", "if", "n != nil"),
  ("db.go:getPendingMergeEntries", "call", "append(pendingMergeEntries, entry)"),
  ("db.go:getPendingMergeEntries", "if", "entry.Meta.ds == DataStructureList"),
  ("db.go:getPendingMergeEntries", "call", "db.ListIdx[string(entry.Meta.bucket)].LRange(string(entry.Key), 0, -1)"),
  ("db.go:getPendingMergeEntries", "if", "entry.Meta.Flag == DataRPushFlag || entry.Meta.Flag == DataLPushFlag"),
  ("db.go:getPendingMergeEntries", "range", "items"),
  ("db.go:getPendingMergeEntries", "if", "string(entry.Value) == string(item)"),
  ("db.go:getPendingMergeEntries", "if", "ok"),
  ("db.go:getPendingMergeEntries", "call", "append(pendingMergeEntries, entry)"),
  ("db.go:reWriteData", "if", "len(pendingMergeEntries) == 0"),
  ("db.go:reWriteData", "call", "db.Begin(true)"),
  ("db.go:reWriteData", "call", "NewDataFile(db.getDataPath(db.MaxFileID+1), db.opt.SegmentSize, db.opt.RWMode)"),
  ("db.go:reWriteData", "range", "pendingMergeEntries"),
  ("db.go:reWriteData", "call", "tx.put(string(e.Meta.bucket), e.Key, e.Value, e.Meta.TTL, e.Meta.Flag, e.Meta.timestamp, e.Meta.ds)"),
  ("db.go:reWriteData", "call", "tx.Rollback()"),
  ("db.go:reWriteData", "call", "tx.Commit()"),
  ("db.go:isFilterEntry", "if", "entry.Meta.Flag == DataDeleteFlag || entry.Meta.Flag == DataRPopFlag || entry.Meta.Flag == DataLPopFlag || entry.Meta.Flag == DataLRemFlag || entry.Meta.Flag == DataLTrimFlag || entry.Meta.Flag == DataZRemFlag || entry.Meta.Flag == DataZRemRangeByRankFlag || entry.Meta.Flag == DataZPopMaxFlag || entry.Meta.Flag == DataZPopMinFlag || IsExpired(entry.Meta.TTL, entry.Meta.timestamp)"),
  ("db.go:getRecordFromKey", "if", "!(idxMode == HintKeyValAndRAMIdxMode || idxMode == HintKeyAndRAMIdxMode)"),
  ("db.go:getRecordFromKey", "return", "errors.New(\"not implemented\")"),
  ("db.go:getRecordFromKey", "if", "!ok"),
  ("db.go:getRecordFromKey", "return", "idx.Find(key)")]

theorem merge_stmts_ok : mergeStmts = expectedMergeStmts := rfl

end NutsProofs.Facts
