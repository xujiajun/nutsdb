/-
  NutsProofs.Pins.Locks — the regenerated lock protocol and effect facts (C14, C17): which exported methods take
  and release `db.mu`, which may write shared locations, what Merge's body and its rewrite transaction touch.
  (Its own module: the effect sets change with almost any change to a `Tx` method, and only the concurrency
  properties rest on them.)
-/
import NutsGen.Facts
namespace NutsProofs.Facts
open NutsGen.F

def eff (r m : String) : List String × List String :=
  ((effects.find? fun p => p.1 == r && p.2.1 == m).map (·.2.2)).getD (["<missing>"], ["<missing>"])
def lck (r m : String) : List String × List String :=
  ((lockOps.find? fun p => p.1 == r && p.2.1 == m).map (·.2.2)).getD (["<missing>"], ["<missing>"])

/-- the lock of a transaction is `db.mu`, taken by `Tx.lock` (write or read side) and released by
`Tx.unlock`; among the exported methods only `DB.Begin` (and what calls it) acquires, only `Commit` and
`Rollback` release; no other `Tx` method touches a mutex -/
theorem lock_protocol_ok :
    lockPrims = [("Tx.lock", ["DB.mu.Lock", "DB.mu.RLock"]), ("Tx.unlock", ["DB.mu.RUnlock", "DB.mu.Unlock"])] ∧
    lck "Tx" "Commit" = (["DB.mu.RUnlock", "DB.mu.Unlock"], []) ∧ lck "Tx" "Rollback" = (["DB.mu.RUnlock", "DB.mu.Unlock"], []) ∧
    (lockOps.filter fun p => p.1 == "Tx" && !(p.2.2.1.isEmpty && p.2.2.2.isEmpty)).map (·.2.1) = ["Commit", "Rollback"] ∧
    (lck "DB" "Begin").1 = ["DB.mu.Lock", "DB.mu.RLock", "DB.mu.RUnlock", "DB.mu.Unlock"] := by
  decide +kernel

/-- methods of `Tx` other than Commit/Rollback that may write a shared location, with what they may write.
Everything else — every read, and every mutating call, which only appends to the transaction's own
pending list — writes nothing shared (**ReadPure**). The listed ones:
  * `SMove*`: mutate the committed set index (finding D-SMOVE);
  * `ZRangeByRank`: an imprecision of the flow-insensitive analysis — `GetByRankRange(start, end, remove)`
    contains the removal code, which `ZRangeByRank` disables by passing `remove = false`. -/
def impureTxMethods : List (String × List String) := [
  ("SMoveByOneBucket", ["Set.M{}", "map{}"]), ("SMoveByTwoBuckets", ["Set.M{}", "map{}"]),
  ("ZRangeByRank", ["SortedSet.Dict{}", "SortedSet.length", "SortedSet.level", "SortedSet.tail", "SortedSetLevel.forward",
    "SortedSetLevel.span", "SortedSetNode.backward"])]

theorem read_pure_except :
    ((effects.filter fun p => p.1 == "Tx" && p.2.1 != "Commit" && p.2.1 != "Rollback" && !(p.2.2.1.isEmpty && p.2.2.2.isEmpty)).map
      fun p => (p.2.1, p.2.2.1)) = impureTxMethods ∧
    (effects.filter fun p => p.1 == "Tx" && p.2.1 != "Commit" && p.2.1 != "Rollback" && !p.2.2.2.isEmpty) = [] := by
  decide +kernel

/-- package-level state written on the commit path: none (the B+ tree writer's `queue`, shared by all
databases of the process, was finding D-QUEUE, fixed in 0158d51); `Begin` touches the transaction-id
registry under its own mutex -/
theorem globals_ok :
    (eff "Tx" "Commit").2 = [] ∧ eff "DB" "Begin" = ([], ["txIDNodes{}"]) ∧
    (lck "DB" "Begin").2 = ["txIDNodesMu.Lock", "txIDNodesMu.Unlock"] := by
  decide +kernel

/-- `DB.Merge`'s own body takes no lock and writes `db.isMerging` (everything else it does to shared state
goes through the write transaction of `reWriteData`, but its reads of the indexes and files are unlocked:
finding D-MERGE-NOLOCK) -/
theorem merge_body_ok : mergeBody = (["DB.isMerging"], []) := rfl

/-- everything else Merge does goes through these functions: the file scan (`NewDataFile`, `ReadAt`), the
three tests of an entry, the rewrite transaction (`reWriteData` — the only one that locks), path helpers
and the closing of the scanned file -/
theorem merge_calls_ok :
    mergeCalls = ["DB.getDataPath", "DB.getMaxFileIDAndFileIDs", "DB.getPendingMergeEntries", "DB.getRecordFromKey", "DB.isFilterEntry",
                  "DB.reWriteData", "DataFile.ReadAt", "Entry.Size", "FileIORWManager.Close", "MMapRWManager.Close", "NewDataFile"] :=
  rfl

/-- the rewrite transaction of Merge touches the database only after its `db.Begin(true)`: no field of
`*DB` is read or written, and no nutsdb function is called, at a point the call of `Begin` does not dominate
(computed on the SSA of `reWriteData` by dominance) -/
theorem rewrite_under_lock : rewriteUnlocked = [] := rfl

end NutsProofs.Facts
