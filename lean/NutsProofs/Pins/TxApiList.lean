/-
  NutsProofs.Pins.TxApiList — the transactional API: tx_list.go
-/
import NutsGen.Facts
import NutsProofs.Lemmas.Ascii
namespace NutsProofs.Facts
open NutsGen.F

def txApiOfList : List (String × String × String) :=
  txApiStmts.filter (fun s => (s.1.toList.takeWhile (· != ':') == "tx_list.go".toList))

/-- the lines of tx_list.go that `Nuts.Model.Tx` was written from: what each call validates against the committed
state and which record it queues -/
def expectedTxApiList : List (String × String × String) := [
  ("tx_list.go:RPop", "call", "tx.RPeek(bucket, key)"),
  ("tx_list.go:RPop", "return", "tx.push(bucket, key, DataRPopFlag, item)"),
  ("tx_list.go:RPeek", "call", "tx.checkTxIsClosed()"),
  ("tx_list.go:RPeek", "if", "!ok"),
  ("tx_list.go:RPeek", "call", "tx.db.ListIdx[bucket].RPeek(string(key))"),
  ("tx_list.go:push", "range", "values"),
  ("tx_list.go:push", "call", "tx.put(bucket, key, value, Persistent, flag, uint64(time.Now().Unix()), DataStructureList)"),
  ("tx_list.go:RPush", "call", "tx.checkTxIsClosed()"),
  ("tx_list.go:RPush", "if", "strings.Contains(string(key), SeparatorForListKey)"),
  ("tx_list.go:RPush", "return", "ErrSeparatorForListKey()"),
  ("tx_list.go:RPush", "return", "tx.push(bucket, key, DataRPushFlag, values...)"),
  ("tx_list.go:LPush", "call", "tx.checkTxIsClosed()"),
  ("tx_list.go:LPush", "if", "strings.Contains(string(key), SeparatorForListKey)"),
  ("tx_list.go:LPush", "return", "ErrSeparatorForListKey()"),
  ("tx_list.go:LPush", "return", "tx.push(bucket, key, DataLPushFlag, values...)"),
  ("tx_list.go:LPop", "call", "tx.LPeek(bucket, key)"),
  ("tx_list.go:LPop", "return", "tx.push(bucket, key, DataLPopFlag, item)"),
  ("tx_list.go:LPeek", "call", "tx.checkTxIsClosed()"),
  ("tx_list.go:LPeek", "if", "!ok"),
  ("tx_list.go:LPeek", "call", "tx.db.ListIdx[bucket].LPeek(string(key))"),
  ("tx_list.go:LSize", "call", "tx.checkTxIsClosed()"),
  ("tx_list.go:LSize", "if", "!ok"),
  ("tx_list.go:LSize", "return", "tx.db.ListIdx[bucket].Size(string(key))"),
  ("tx_list.go:LRange", "call", "tx.checkTxIsClosed()"),
  ("tx_list.go:LRange", "if", "!ok"),
  ("tx_list.go:LRange", "return", "tx.db.ListIdx[bucket].LRange(string(key), start, end)"),
  ("tx_list.go:LRem", "call", "tx.LSize(bucket, key)"),
  ("tx_list.go:LRem", "if", "count > size || count < -size"),
  ("tx_list.go:LRem", "call", "buffer.Write([]byte(strconv2.IntToStr(count)))"),
  ("tx_list.go:LRem", "call", "buffer.Write([]byte(SeparatorForListKey))"),
  ("tx_list.go:LRem", "call", "buffer.Write(value)"),
  ("tx_list.go:LRem", "call", "buffer.Bytes()"),
  ("tx_list.go:LRem", "call", "tx.push(bucket, key, DataLRemFlag, newValue)"),
  ("tx_list.go:LRem", "call", "tx.db.ListIdx[bucket].LRemNum(string(key), count, value)"),
  ("tx_list.go:LSet", "call", "tx.checkTxIsClosed()"),
  ("tx_list.go:LSet", "if", "!ok"),
  ("tx_list.go:LSet", "if", "!ok"),
  ("tx_list.go:LSet", "call", "tx.LSize(bucket, key)"),
  ("tx_list.go:LSet", "if", "index < 0 || index >= size"),
  ("tx_list.go:LSet", "call", "buffer.Write(key)"),
  ("tx_list.go:LSet", "call", "buffer.Write([]byte(SeparatorForListKey))"),
  ("tx_list.go:LSet", "call", "[]byte(strconv2.IntToStr(index))"),
  ("tx_list.go:LSet", "call", "buffer.Write(indexBytes)"),
  ("tx_list.go:LSet", "call", "buffer.Bytes()"),
  ("tx_list.go:LSet", "return", "tx.push(bucket, newKey, DataLSetFlag, value)"),
  ("tx_list.go:LTrim", "call", "tx.checkTxIsClosed()"),
  ("tx_list.go:LTrim", "if", "!ok"),
  ("tx_list.go:LTrim", "if", "!ok"),
  ("tx_list.go:LTrim", "call", "tx.LRange(bucket, key, start, end)"),
  ("tx_list.go:LTrim", "call", "buffer.Write(key)"),
  ("tx_list.go:LTrim", "call", "buffer.Write([]byte(SeparatorForListKey))"),
  ("tx_list.go:LTrim", "call", "buffer.Write([]byte(strconv2.IntToStr(start)))"),
  ("tx_list.go:LTrim", "call", "buffer.Bytes()"),
  ("tx_list.go:LTrim", "return", "tx.push(bucket, newKey, DataLTrimFlag, []byte(strconv2.IntToStr(end)))"),
  ("tx_list.go:ErrSeparatorForListKey", "return", "errors.New(\"contain separator (\" + SeparatorForListKey + \") for List key\")")
]

theorem tx_api_list_ok : txApiOfList = expectedTxApiList := by
  rw [txApiOfList, NutsProofs.toList_eq_fastToList]; decide +kernel

end NutsProofs.Facts
