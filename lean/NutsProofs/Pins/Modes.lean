/-
  NutsProofs.Pins.Modes — the refusal conditions of `checkEntryIdxMode` and the order of steps of `Open` (C22)
-/
import NutsGen.Facts
namespace NutsProofs.Facts
open NutsGen.F

theorem mode_refusals_ok :
    modeRefusals = ["db.opt.EntryIdxMode != HintBPTSparseIdxMode && hasDataFlag && hasBptDirFlag",
                    "db.opt.EntryIdxMode == HintBPTSparseIdxMode && hasBptDirFlag == false && hasDataFlag == true"] :=
  rfl

/-- the mode check runs before any of the sparse-mode directories is created and before indexes are built -/
theorem open_check_first :
    openOrder = ["mkdir db.opt.Dir", "check", "mkdir bptRootIdxDir", "mkdir bptTxIDIdxDir", "mkdir bucketMetaDir", "buildIndexes"] :=
  rfl

end NutsProofs.Facts
