/-
  NutsProofs.Pins.ReadPath — tx_bptree.go: the key/value read path
-/
import NutsGen.Facts
namespace NutsProofs.Facts
open NutsGen.F

/-- the conditions and loop headers of the key/value read path of tx_bptree.go that the models of the RAM modes
(`Nuts.Model.DB`: `get`, `getAll`, `rangeScan`, `prefixScan`, `wrapper`) and of the sparse mode
(`Nuts.Model.Sparse`: `get`, `getOnDisk`, `rangeSelects`, `processEntries`, …) were written from -/
def expectedReadPathStmts : List (String × String × String) := [
  ("getByHintBPTSparseIdxInMem", "if", "err == nil && r != nil"),
  ("getByHintBPTSparseIdxOnDisk", "range", "tx.db.BPTreeRootIdxes"),
  ("getByHintBPTSparseIdxOnDisk", "sort", "SortFID(bptSparseIdxGroup, func(p, q *BPTreeRootIdx) bool { return p.fID > q.fID })"),
  ("getByHintBPTSparseIdxOnDisk", "range", "bptSparseIdxGroup"),
  ("getByHintBPTSparseIdxOnDisk", "if", "compare(newKey, bptSparse.start) >= 0 && compare(newKey, bptSparse.end) <= 0"),
  ("getByHintBPTSparseIdxOnDisk", "if", "err == nil && e != nil"),
  ("getByHintBPTSparseIdxOnDisk", "if", "e.Meta.Flag == DataDeleteFlag || IsExpired(e.Meta.TTL, e.Meta.timestamp)"),
  ("getByHintBPTSparseIdxOnDisk", "if", "!ok"),
  ("getByHintBPTSparseIdx", "if", "entry != nil && err == nil"),
  ("getByHintBPTSparseIdx", "if", "entry.Meta.Flag == DataDeleteFlag || IsExpired(entry.Meta.TTL, entry.Meta.timestamp)"),
  ("getByHintBPTSparseIdx", "if", "entry != nil && err == nil"),
  ("Get", "if", "idxMode == HintBPTSparseIdxMode"),
  ("Get", "if", "idxMode == HintKeyValAndRAMIdxMode || idxMode == HintKeyAndRAMIdxMode"),
  ("Get", "if", "ok"),
  ("Get", "if", "!ok"),
  ("Get", "if", "r.H.meta.Flag == DataDeleteFlag || r.IsExpired()"),
  ("Get", "if", "idxMode == HintKeyValAndRAMIdxMode"),
  ("Get", "if", "idxMode == HintKeyAndRAMIdxMode"),
  ("GetAll", "if", "idxMode == HintBPTSparseIdxMode"),
  ("GetAll", "if", "idxMode == HintKeyValAndRAMIdxMode || idxMode == HintKeyAndRAMIdxMode"),
  ("GetAll", "if", "ok"),
  ("GetAll", "if", "len(entries) == 0"),
  ("RangeScan", "if", "tx.db.opt.EntryIdxMode == HintBPTSparseIdxMode"),
  ("RangeScan", "if", "err == nil && records != nil"),
  ("RangeScan", "range", "records"),
  ("RangeScan", "if", "len(es) == 0"),
  ("RangeScan", "if", "ok"),
  ("RangeScan", "if", "len(es) == 0"),
  ("rangeScanOnDisk", "sort", "SortFID(bptSparseIdxGroup, func(p, q *BPTreeRootIdx) bool { return p.fID > q.fID })"),
  ("rangeScanOnDisk", "range", "bptSparseIdxGroup"),
  ("rangeScanOnDisk", "if", "compare(newStart, bptSparseIdx.start) <= 0 && compare(bptSparseIdx.start, newEnd) <= 0 || compare(newStart, bptSparseIdx.end) <= 0 && compare(bptSparseIdx.end, newEnd) <= 0"),
  ("prefixScanOnDisk", "sort", "SortFID(bptSparseIdxGroup, func(p, q *BPTreeRootIdx) bool { return p.fID > q.fID })"),
  ("prefixScanOnDisk", "range", "bptSparseIdxGroup"),
  ("prefixScanOnDisk", "if", "compare(newPrefix, bptSparseIdx.start) <= 0 || compare(newPrefix, bptSparseIdx.end) <= 0"),
  ("prefixScanOnDisk", "if", "len(result) == limitNum"),
  ("prefixSearchScanOnDisk", "sort", "SortFID(bptSparseIdxGroup, func(p, q *BPTreeRootIdx) bool { return p.fID > q.fID })"),
  ("prefixSearchScanOnDisk", "range", "bptSparseIdxGroup"),
  ("prefixSearchScanOnDisk", "if", "compare(newPrefix, bptSparseIdx.start) <= 0 || compare(newPrefix, bptSparseIdx.end) <= 0"),
  ("prefixSearchScanOnDisk", "if", "len(result) == limitNum"),
  ("processEntriesScanOnDisk", "range", "entriesTemp"),
  ("processEntriesScanOnDisk", "if", "!ok"),
  ("processEntriesScanOnDisk", "range", "keys"),
  ("processEntriesScanOnDisk", "if", "!IsExpired(es[key].Meta.TTL, es[key].Meta.timestamp) && es[key].Meta.Flag != DataDeleteFlag"),
  ("prefixScanByHintBPTSparseIdx", "if", "err == nil && records != nil"),
  ("prefixScanByHintBPTSparseIdx", "range", "records"),
  ("prefixScanByHintBPTSparseIdx", "if", "len(es) == limitNum"),
  ("prefixScanByHintBPTSparseIdx", "if", "leftNum > 0"),
  ("prefixScanByHintBPTSparseIdx", "if", "len(es) == 0"),
  ("prefixSearchScanByHintBPTSparseIdx", "if", "err == nil && records != nil"),
  ("prefixSearchScanByHintBPTSparseIdx", "range", "records"),
  ("prefixSearchScanByHintBPTSparseIdx", "if", "len(es) == limitNum"),
  ("prefixSearchScanByHintBPTSparseIdx", "if", "leftNum > 0"),
  ("prefixSearchScanByHintBPTSparseIdx", "if", "len(es) == 0"),
  ("PrefixScan", "if", "tx.db.opt.EntryIdxMode == HintBPTSparseIdxMode"),
  ("PrefixScan", "if", "ok"),
  ("PrefixScan", "if", "len(es) == 0"),
  ("PrefixSearchScan", "if", "tx.db.opt.EntryIdxMode == HintBPTSparseIdxMode"),
  ("PrefixSearchScan", "if", "ok"),
  ("PrefixSearchScan", "if", "len(es) == 0"),
  ("getHintIdxDataItemsWrapper", "range", "records"),
  ("getHintIdxDataItemsWrapper", "if", "r.H.meta.Flag == DataDeleteFlag || r.IsExpired()"),
  ("getHintIdxDataItemsWrapper", "if", "limitNum > 0 && len(es) < limitNum || limitNum == ScanNoLimit"),
  ("getHintIdxDataItemsWrapper", "if", "idxMode == HintKeyAndRAMIdxMode"),
  ("getHintIdxDataItemsWrapper", "if", "idxMode == HintKeyValAndRAMIdxMode")]

/-- **the read path, regenerated**: dead-record tests, mode dispatch, segment-selection tests, newest-first order,
limit tests — the lines listed above are the ones in the tree now. -/
theorem read_path_ok : readPathStmts = expectedReadPathStmts := rfl

end NutsProofs.Facts
