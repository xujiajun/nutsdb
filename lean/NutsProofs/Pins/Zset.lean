/-
  NutsProofs.Pins.Zset — ds/zset: span statements, loops over levels, search-loop conditions, score tests
-/
import NutsGen.Facts
namespace NutsProofs.Facts
open NutsGen.F

/-- the lines of ds/zset/sortedset.go that `Nuts.Model.Skiplist` was written from: every statement on a span,
on `rank[]`, on `traversed`, every loop over levels, every search-loop condition, every score / forward test -/
def expectedSpanStmts : List (String × String × String) := [
  ("insertNode", "for", "i := ss.level - 1; i >= 0; i--"),
  ("insertNode", "assign", "rank[i] = 0"),
  ("insertNode", "assign", "rank[i] = rank[i+1]"),
  ("insertNode", "while", "x.level[i].forward != nil && (x.level[i].forward.score < score || (x.level[i].forward.score == score && x.level[i].forward.key < key))"),
  ("insertNode", "assign", "rank[i] += x.level[i].span"),
  ("insertNode", "for", "i := ss.level; i < level; i++"),
  ("insertNode", "assign", "rank[i] = 0"),
  ("insertNode", "assign", "update[i].level[i].span = ss.length"),
  ("insertNode", "for", "i := 0; i < level; i++"),
  ("insertNode", "assign", "x.level[i].span = update[i].level[i].span - (rank[0] - rank[i])"),
  ("insertNode", "assign", "update[i].level[i].span = (rank[0] - rank[i]) + 1"),
  ("insertNode", "for", "i := level; i < ss.level; i++"),
  ("insertNode", "incdec", "update[i].level[i].span++"),
  ("insertNode", "if", "x.level[0].forward != nil"),
  ("deleteNode", "for", "i := 0; i < ss.level; i++"),
  ("deleteNode", "if", "update[i].level[i].forward == x"),
  ("deleteNode", "assign", "update[i].level[i].span += x.level[i].span - 1"),
  ("deleteNode", "assign", "update[i].level[i].span -= 1"),
  ("deleteNode", "if", "x.level[0].forward != nil"),
  ("deleteNode", "while", "ss.level > 1 && ss.header.level[ss.level-1].forward == nil"),
  ("delete", "for", "i := ss.level - 1; i >= 0; i--"),
  ("delete", "while", "x.level[i].forward != nil && (x.level[i].forward.score < score || (x.level[i].forward.score == score && x.level[i].forward.key < key))"),
  ("delete", "if", "x != nil && score == x.score && x.key == key"),
  ("Put", "if", "n.score == score"),
  ("searchForward", "for", "i := ss.level - 1; i >= 0; i--"),
  ("searchForward", "while", "x.level[i].forward != nil && x.level[i].forward.score <= start"),
  ("searchForward", "for", "i := ss.level - 1; i >= 0; i--"),
  ("searchForward", "while", "x.level[i].forward != nil && x.level[i].forward.score < start"),
  ("searchForward", "while", "x != nil && limit > 0"),
  ("searchForward", "if", "x.score >= end"),
  ("searchForward", "if", "x.score > end"),
  ("searchReverse", "for", "i := ss.level - 1; i >= 0; i--"),
  ("searchReverse", "while", "x.level[i].forward != nil && x.level[i].forward.score < end"),
  ("searchReverse", "for", "i := ss.level - 1; i >= 0; i--"),
  ("searchReverse", "while", "x.level[i].forward != nil && x.level[i].forward.score <= end"),
  ("searchReverse", "while", "x != nil && limit > 0"),
  ("searchReverse", "if", "x.score <= start"),
  ("searchReverse", "if", "x.score < start"),
  ("GetByRankRange", "assign", "traversed = 0"),
  ("GetByRankRange", "for", "i := ss.level - 1; i >= 0; i--"),
  ("GetByRankRange", "while", "x.level[i].forward != nil && traversed+int(x.level[i].span) < start"),
  ("GetByRankRange", "assign", "traversed += int(x.level[i].span)"),
  ("GetByRankRange", "if", "traversed+1 == start"),
  ("GetByRankRange", "incdec", "traversed++"),
  ("GetByRankRange", "while", "x != nil && traversed <= end"),
  ("GetByRankRange", "incdec", "traversed++"),
  ("FindRank", "for", "i := ss.level - 1; i >= 0; i--"),
  ("FindRank", "while", "x.level[i].forward != nil && (x.level[i].forward.score < node.score || (x.level[i].forward.score == node.score && x.level[i].forward.key <= node.key))"),
  ("FindRank", "assign", "rank += int(x.level[i].span)")]

/-- **the skiplist's span arithmetic and search conditions, regenerated.** The source lines listed above are
the ones in the tree now (same functions, same order, same text): a changed span update, rank accumulation,
loop condition or bound test in ds/zset breaks this obligation. -/
theorem span_arithmetic_ok : spanStmts = expectedSpanStmts := rfl

end NutsProofs.Facts
