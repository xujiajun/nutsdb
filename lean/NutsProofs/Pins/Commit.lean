/-
  NutsProofs.Pins.Commit — the structure of the write loop of `Tx.Commit` (C10, C11, C12, and the recovery lemmas)
-/
import NutsGen.Facts
namespace NutsProofs.Facts
open NutsGen.F

def items (k : String) : List (String × String × String) := commitLoop.filter (·.1 == k)

/-- the commit marker is assigned in exactly one place, under `i == lastIndex`, before the write -/
theorem commit_marker_last_only :
    items "status" = [("status", "i == lastIndex", "entry.Meta.status = Committed")] ∧
    (commitLoop.findIdx? (·.1 == "status")).isSome ∧
    (commitLoop.findIdx? (·.1 == "status")).getD 99 < (commitLoop.findIdx? (·.1 == "write")).getD 0 :=
  ⟨rfl, by decide +kernel, by decide +kernel⟩

/-- one unconditional write per record; the next step that is not its error return is the sync,
guarded by exactly `SyncEnable`; offsets advance only afterwards -/
theorem commit_sync_follows_write :
    items "write" = [("write", "", "tx.db.ActiveFile.WriteAt(entry.Encode(), tx.db.ActiveFile.writeOff)")] ∧
    items "sync" = [("sync", "tx.db.opt.SyncEnable", "tx.db.ActiveFile.rwManager.Sync()")] ∧
    (((commitLoop.dropWhile (·.1 != "write")).map (·.1)).take 4) = ["write", "return", "sync", "return"] ∧
    (commitLoop.findIdx? (·.1 == "sync")).getD 99 < (commitLoop.findIdx? (·.1 == "advance")).getD 0 :=
  ⟨rfl, rfl, rfl, by decide +kernel⟩

/-- the transaction id is recorded as committed only for the last record and only after its write -/
theorem commit_ids_after_last_write :
    items "committedIds" = [("committedIds", "i == lastIndex && !(tx.db.opt.EntryIdxMode == HintBPTSparseIdxMode)", "tx.db.committedTxIds[txID]")] ∧
    (commitLoop.findIdx? (·.1 == "write")).getD 99 < (commitLoop.findIdx? (·.1 == "committedIds")).getD 0 :=
  ⟨rfl, by decide +kernel⟩

/-- the size tests: an entry larger than the segment is refused before anything else happens to it;
rotation exactly when the record does not fit in the active file -/
theorem commit_size_tests :
    commitLoop.head? = some ("return", "entrySize > tx.db.opt.SegmentSize", "return ErrKeyAndValSize") ∧
    items "rotate" = [("rotate", "tx.db.ActiveFile.ActualSize+entrySize > tx.db.opt.SegmentSize", "tx.rotateActiveFile()")] :=
  ⟨rfl, rfl⟩

/-- KV records are indexed inside the loop (this is what makes finding D-COMMIT-PARTIAL possible) -/
theorem commit_indexes_kv_in_loop :
    items "indexKV" = [("indexKV", "entry.Meta.ds == DataStructureBPTree", "tx.buildBPTreeIdx(bucket, entry, e, off, countFlag)")] :=
  rfl

end NutsProofs.Facts
