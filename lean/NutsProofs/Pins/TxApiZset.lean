/-
  NutsProofs.Pins.TxApiZset — the transactional API: tx_zset.go
-/
import NutsGen.Facts
import NutsProofs.Lemmas.Ascii
namespace NutsProofs.Facts
open NutsGen.F

def txApiOfZset : List (String × String × String) :=
  txApiStmts.filter (fun s => (s.1.toList.takeWhile (· != ':') == "tx_zset.go".toList))

/-- the lines of tx_zset.go that `Nuts.Model.Tx` was written from: what each call validates against the committed
state and which record it queues -/
def expectedTxApiZset : List (String × String × String) := [
  ("tx_zset.go:ZAdd", "if", "strings.Contains(string(key), SeparatorForZSetKey)"),
  ("tx_zset.go:ZAdd", "return", "ErrSeparatorForZSetKey()"),
  ("tx_zset.go:ZAdd", "call", "buffer.Write(key)"),
  ("tx_zset.go:ZAdd", "call", "buffer.Write([]byte(SeparatorForZSetKey))"),
  ("tx_zset.go:ZAdd", "call", "[]byte(strconv.FormatFloat(score, 'f', -1, 64))"),
  ("tx_zset.go:ZAdd", "call", "buffer.Write(scoreBytes)"),
  ("tx_zset.go:ZAdd", "call", "buffer.Bytes()"),
  ("tx_zset.go:ZAdd", "return", "tx.put(bucket, newKey, val, Persistent, DataZAddFlag, uint64(time.Now().Unix()), DataStructureSortedSet)"),
  ("tx_zset.go:ZMembers", "call", "tx.checkTxIsClosed()"),
  ("tx_zset.go:ZMembers", "if", "!ok"),
  ("tx_zset.go:ZCard", "call", "tx.ZMembers(bucket)"),
  ("tx_zset.go:ZCard", "return", "len(members)"),
  ("tx_zset.go:ZCount", "call", "tx.ZRangeByScore(bucket, start, end, opts)"),
  ("tx_zset.go:ZCount", "return", "len(nodes)"),
  ("tx_zset.go:ZPopMax", "call", "tx.ZPeekMax(bucket)"),
  ("tx_zset.go:ZPopMax", "return", "tx.put(bucket, []byte(\" \"), []byte(\"\"), Persistent, DataZPopMaxFlag, uint64(time.Now().Unix()), DataStructureSortedSet)"),
  ("tx_zset.go:ZPopMin", "call", "tx.ZPeekMin(bucket)"),
  ("tx_zset.go:ZPopMin", "return", "tx.put(bucket, []byte(\" \"), []byte(\"\"), Persistent, DataZPopMinFlag, uint64(time.Now().Unix()), DataStructureSortedSet)"),
  ("tx_zset.go:ZPeekMax", "call", "tx.checkTxIsClosed()"),
  ("tx_zset.go:ZPeekMax", "if", "!ok"),
  ("tx_zset.go:ZPeekMax", "return", "tx.db.SortedSetIdx[bucket].PeekMax()"),
  ("tx_zset.go:ZPeekMin", "call", "tx.checkTxIsClosed()"),
  ("tx_zset.go:ZPeekMin", "if", "!ok"),
  ("tx_zset.go:ZPeekMin", "return", "tx.db.SortedSetIdx[bucket].PeekMin()"),
  ("tx_zset.go:ZRangeByScore", "call", "tx.checkTxIsClosed()"),
  ("tx_zset.go:ZRangeByScore", "if", "!ok"),
  ("tx_zset.go:ZRangeByScore", "return", "tx.db.SortedSetIdx[bucket].GetByScoreRange(zset.SCORE(start), zset.SCORE(end), opts)"),
  ("tx_zset.go:ZRangeByRank", "call", "tx.checkTxIsClosed()"),
  ("tx_zset.go:ZRangeByRank", "if", "!ok"),
  ("tx_zset.go:ZRangeByRank", "return", "tx.db.SortedSetIdx[bucket].GetByRankRange(start, end, false)"),
  ("tx_zset.go:ZRem", "call", "tx.checkTxIsClosed()"),
  ("tx_zset.go:ZRem", "if", "!ok"),
  ("tx_zset.go:ZRem", "return", "tx.put(bucket, []byte(key), []byte(\"\"), Persistent, DataZRemFlag, uint64(time.Now().Unix()), DataStructureSortedSet)"),
  ("tx_zset.go:ZRemRangeByRank", "call", "tx.checkTxIsClosed()"),
  ("tx_zset.go:ZRemRangeByRank", "if", "!ok"),
  ("tx_zset.go:ZRemRangeByRank", "call", "strconv2.IntToStr(start)"),
  ("tx_zset.go:ZRemRangeByRank", "call", "strconv2.IntToStr(end)"),
  ("tx_zset.go:ZRemRangeByRank", "return", "tx.put(bucket, []byte(newKey), []byte(newVal), Persistent, DataZRemRangeByRankFlag, uint64(time.Now().Unix()), DataStructureSortedSet)"),
  ("tx_zset.go:ZRank", "call", "tx.checkTxIsClosed()"),
  ("tx_zset.go:ZRank", "if", "!ok"),
  ("tx_zset.go:ZRank", "return", "tx.db.SortedSetIdx[bucket].FindRank(string(key))"),
  ("tx_zset.go:ZRevRank", "call", "tx.checkTxIsClosed()"),
  ("tx_zset.go:ZRevRank", "if", "!ok"),
  ("tx_zset.go:ZRevRank", "return", "tx.db.SortedSetIdx[bucket].FindRevRank(string(key))"),
  ("tx_zset.go:ZScore", "call", "tx.checkTxIsClosed()"),
  ("tx_zset.go:ZScore", "if", "!ok"),
  ("tx_zset.go:ZScore", "if", "node != nil"),
  ("tx_zset.go:ZScore", "call", "tx.db.SortedSetIdx[bucket].GetByKey(string(key))"),
  ("tx_zset.go:ZScore", "return", "float64(node.Score())"),
  ("tx_zset.go:ZGetByKey", "call", "tx.checkTxIsClosed()"),
  ("tx_zset.go:ZGetByKey", "if", "!ok"),
  ("tx_zset.go:ZGetByKey", "if", "node != nil"),
  ("tx_zset.go:ZGetByKey", "call", "tx.db.SortedSetIdx[bucket].GetByKey(string(key))"),
  ("tx_zset.go:ErrSeparatorForZSetKey", "return", "errors.New(\"contain separator (\" + SeparatorForZSetKey + \") for ZSet key\")")
]

theorem tx_api_zset_ok : txApiOfZset = expectedTxApiZset := by
  rw [txApiOfZset, NutsProofs.toList_eq_fastToList]; decide +kernel

end NutsProofs.Facts
