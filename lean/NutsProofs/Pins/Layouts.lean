/-
  NutsProofs.Pins.Layouts — encoder / decoder field layouts and CRC coverage of the three codecs (C21)
-/
import NutsGen.Facts
namespace NutsProofs.Facts
open NutsGen.F

def fieldsOf (l : List (String × Nat × Nat × Nat)) : List (Nat × Nat × Nat) := l.map fun (_, a, b, w) => (a, b, w)

/-- encoder and decoder agree on every header field of the three codecs -/
theorem layouts_agree :
    fieldsOf entryEnc = fieldsOf entryDec ∧ fieldsOf metaEnc = fieldsOf metaDec ∧ fieldsOf rootEnc = fieldsOf rootDec := by
  decide +kernel

/-- every field's slice has the width of its integer type, fields are disjoint and cover the header -/
def wf (l : List (String × Nat × Nat × Nat)) (size : Nat) : Bool :=
  l.all (fun (_, a, b, w) => a + w == b && b ≤ size) &&
  (l.map fun (_, _, _, w) => w).sum == size &&
  l.all fun (n1, a1, b1, _) => l.all fun (n2, a2, b2, _) => n1 == n2 || b1 ≤ a2 || b2 ≤ a1

theorem layouts_wf : wf entryEnc 42 = true ∧ wf metaEnc 12 = true ∧ wf rootEnc 28 = true := by
  decide +kernel

/-- the checksum covers everything after the crc field, then the payloads in storage order -/
theorem crc_coverage_ok :
    entryCrcEnc = ["buf[4:]"] ∧ entryCrcDec = ["buf[4:]", "e.Meta.bucket", "e.Key", "e.Value"] ∧
    metaCrcEnc = ["buf[4:]"] ∧ metaCrcDec = ["buf[4:]", "bm.start", "bm.end"] ∧
    rootCrcEnc = ["buf[4:]"] ∧ rootCrcDec = ["buf[4:]", "bri.start", "bri.end"] :=
  ⟨rfl, rfl, rfl, rfl, rfl, rfl⟩

end NutsProofs.Facts
