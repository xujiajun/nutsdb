/-
  NutsProofs.Pins.SetDS — ds/set/set.go
-/
import NutsGen.Facts
namespace NutsProofs.Facts
open NutsGen.F

/-- ds/set/set.go, every function: what `Nuts.Model.SetDS` renders -/
def expectedSetStmts : List (String × String × String) := [
  ("set.go:SAdd", "if", "!ok"),
  ("set.go:SAdd", "range", "items"),
  ("set.go:SRem", "if", "!ok"),
  ("set.go:SRem", "return", "errors.New(\"key not found\")"),
  ("set.go:SRem", "if", "len(items[0]) == 0"),
  ("set.go:SRem", "return", "errors.New(\"item empty\")"),
  ("set.go:SRem", "range", "items"),
  ("set.go:SRem", "call", "delete(s.M[key], string(item))"),
  ("set.go:SHasKey", "if", "!ok"),
  ("set.go:SPop", "if", "!s.SHasKey(key)"),
  ("set.go:SPop", "range", "s.M[key]"),
  ("set.go:SPop", "call", "delete(s.M[key], item)"),
  ("set.go:SPop", "return", "[]byte(item)"),
  ("set.go:SCard", "if", "!s.SHasKey(key)"),
  ("set.go:SCard", "return", "len(s.M[key])"),
  ("set.go:SDiff", "call", "s.checkKey1AndKey2(key1, key2)"),
  ("set.go:SDiff", "range", "s.M[key1]"),
  ("set.go:SDiff", "if", "!ok"),
  ("set.go:SDiff", "call", "append(list, []byte(item1))"),
  ("set.go:SInter", "call", "s.checkKey1AndKey2(key1, key2)"),
  ("set.go:SInter", "range", "s.M[key1]"),
  ("set.go:SInter", "if", "ok"),
  ("set.go:SInter", "call", "append(list, []byte(item1))"),
  ("set.go:checkKey1AndKey2", "if", "!ok"),
  ("set.go:checkKey1AndKey2", "return", "errors.New(\"set1 is not exists\")"),
  ("set.go:checkKey1AndKey2", "if", "!ok"),
  ("set.go:checkKey1AndKey2", "return", "errors.New(\"set2 is not exists\")"),
  ("set.go:SIsMember", "if", "!ok"),
  ("set.go:SIsMember", "if", "ok"),
  ("set.go:SAreMembers", "if", "!ok"),
  ("set.go:SAreMembers", "return", "errors.New(\"key not exits\")"),
  ("set.go:SAreMembers", "range", "items"),
  ("set.go:SAreMembers", "if", "!ok"),
  ("set.go:SAreMembers", "return", "errors.New(\"item not exits\")"),
  ("set.go:SMembers", "if", "!ok"),
  ("set.go:SMembers", "return", "errors.New(\"set not exists\")"),
  ("set.go:SMembers", "range", "s.M[key]"),
  ("set.go:SMembers", "call", "append(list, []byte(item))"),
  ("set.go:SMove", "if", "!s.SHasKey(key1)"),
  ("set.go:SMove", "return", "errors.New(\"key1 is not exists\")"),
  ("set.go:SMove", "if", "!s.SHasKey(key2)"),
  ("set.go:SMove", "return", "errors.New(\"key2 is not exists\")"),
  ("set.go:SMove", "if", "!ok"),
  ("set.go:SMove", "call", "s.SAdd(key2, item)"),
  ("set.go:SMove", "call", "s.SRem(key1, item)"),
  ("set.go:SUnion", "call", "s.checkKey1AndKey2(key1, key2)"),
  ("set.go:SUnion", "range", "s.M[key1]"),
  ("set.go:SUnion", "call", "append(list, []byte(item1))"),
  ("set.go:SUnion", "range", "s.M[key2]"),
  ("set.go:SUnion", "if", "!ok"),
  ("set.go:SUnion", "call", "append(list, []byte(item2))")]

theorem set_stmts_ok : setStmts = expectedSetStmts := rfl

end NutsProofs.Facts
