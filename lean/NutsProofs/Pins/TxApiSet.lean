/-
  NutsProofs.Pins.TxApiSet — the transactional API: tx_set.go
-/
import NutsGen.Facts
import NutsProofs.Lemmas.Ascii
namespace NutsProofs.Facts
open NutsGen.F

def txApiOfSet : List (String × String × String) :=
  txApiStmts.filter (fun s => (s.1.toList.takeWhile (· != ':') == "tx_set.go".toList))

/-- the lines of tx_set.go that `Nuts.Model.Tx` was written from: what each call validates against the committed
state and which record it queues -/
def expectedTxApiSet : List (String × String × String) := [
  ("tx_set.go:sPut", "range", "items"),
  ("tx_set.go:sPut", "call", "tx.put(bucket, key, item, Persistent, dataFlag, uint64(time.Now().Unix()), DataStructureSet)"),
  ("tx_set.go:SAdd", "return", "tx.sPut(bucket, key, DataSetFlag, items...)"),
  ("tx_set.go:SRem", "return", "tx.sPut(bucket, key, DataDeleteFlag, items...)"),
  ("tx_set.go:SAreMembers", "call", "tx.checkTxIsClosed()"),
  ("tx_set.go:SAreMembers", "if", "ok"),
  ("tx_set.go:SAreMembers", "return", "sets.SAreMembers(string(key), items...)"),
  ("tx_set.go:SAreMembers", "return", "ErrBucketAndKey(bucket, key)"),
  ("tx_set.go:SIsMember", "call", "tx.checkTxIsClosed()"),
  ("tx_set.go:SIsMember", "if", "ok"),
  ("tx_set.go:SIsMember", "if", "!set.SIsMember(string(key), item)"),
  ("tx_set.go:SIsMember", "return", "ErrBucketAndKey(bucket, key)"),
  ("tx_set.go:SIsMember", "return", "ErrBucketAndKey(bucket, key)"),
  ("tx_set.go:SMembers", "call", "tx.checkTxIsClosed()"),
  ("tx_set.go:SMembers", "if", "ok"),
  ("tx_set.go:SMembers", "return", "set.SMembers(string(key))"),
  ("tx_set.go:SMembers", "return", "ErrBucketAndKey(bucket, key)"),
  ("tx_set.go:SHasKey", "call", "tx.checkTxIsClosed()"),
  ("tx_set.go:SHasKey", "if", "ok"),
  ("tx_set.go:SHasKey", "return", "set.SHasKey(string(key))"),
  ("tx_set.go:SHasKey", "return", "ErrBucketAndKey(bucket, key)"),
  ("tx_set.go:SPop", "call", "tx.checkTxIsClosed()"),
  ("tx_set.go:SPop", "if", "ok"),
  ("tx_set.go:SPop", "range", "tx.db.SetIdx[bucket].M[string(key)]"),
  ("tx_set.go:SPop", "return", "[]byte(item)"),
  ("tx_set.go:SPop", "return", "tx.sPut(bucket, key, DataDeleteFlag, []byte(item))"),
  ("tx_set.go:SPop", "return", "ErrBucketAndKey(bucket, key)"),
  ("tx_set.go:SCard", "call", "tx.checkTxIsClosed()"),
  ("tx_set.go:SCard", "if", "ok"),
  ("tx_set.go:SCard", "return", "set.SCard(string(key))"),
  ("tx_set.go:SCard", "return", "ErrBucketAndKey(bucket, key)"),
  ("tx_set.go:SDiffByOneBucket", "call", "tx.checkTxIsClosed()"),
  ("tx_set.go:SDiffByOneBucket", "if", "ok"),
  ("tx_set.go:SDiffByOneBucket", "return", "set.SDiff(string(key1), string(key2))"),
  ("tx_set.go:SDiffByOneBucket", "return", "ErrBucketAndKey(bucket, key1)"),
  ("tx_set.go:SDiffByTwoBuckets", "call", "tx.checkTxIsClosed()"),
  ("tx_set.go:SDiffByTwoBuckets", "if", "!ok"),
  ("tx_set.go:SDiffByTwoBuckets", "return", "ErrBucketAndKey(bucket1, key1)"),
  ("tx_set.go:SDiffByTwoBuckets", "if", "!ok"),
  ("tx_set.go:SDiffByTwoBuckets", "return", "ErrBucketAndKey(bucket2, key2)"),
  ("tx_set.go:SDiffByTwoBuckets", "range", "set1.M[string(key1)]"),
  ("tx_set.go:SDiffByTwoBuckets", "if", "!ok"),
  ("tx_set.go:SDiffByTwoBuckets", "call", "append(list, []byte(item1))"),
  ("tx_set.go:SMoveByOneBucket", "call", "tx.checkTxIsClosed()"),
  ("tx_set.go:SMoveByOneBucket", "if", "ok"),
  ("tx_set.go:SMoveByOneBucket", "return", "set.SMove(string(key1), string(key2), item)"),
  ("tx_set.go:SMoveByTwoBuckets", "call", "tx.checkTxIsClosed()"),
  ("tx_set.go:SMoveByTwoBuckets", "if", "!ok"),
  ("tx_set.go:SMoveByTwoBuckets", "return", "ErrBucketAndKey(bucket1, key1)"),
  ("tx_set.go:SMoveByTwoBuckets", "if", "!ok"),
  ("tx_set.go:SMoveByTwoBuckets", "return", "ErrBucketAndKey(bucket2, key1)"),
  ("tx_set.go:SMoveByTwoBuckets", "if", "!set1.SHasKey(string(key1))"),
  ("tx_set.go:SMoveByTwoBuckets", "return", "ErrNotFoundKeyInBucket(bucket1, key1)"),
  ("tx_set.go:SMoveByTwoBuckets", "if", "!set2.SHasKey(string(key2))"),
  ("tx_set.go:SMoveByTwoBuckets", "return", "ErrNotFoundKeyInBucket(bucket2, key2)"),
  ("tx_set.go:SMoveByTwoBuckets", "if", "!ok"),
  ("tx_set.go:SMoveByTwoBuckets", "call", "set2.SAdd(string(key2), item)"),
  ("tx_set.go:SMoveByTwoBuckets", "call", "set1.SRem(string(key1), item)"),
  ("tx_set.go:SUnionByOneBucket", "call", "tx.checkTxIsClosed()"),
  ("tx_set.go:SUnionByOneBucket", "if", "ok"),
  ("tx_set.go:SUnionByOneBucket", "return", "set.SUnion(string(key1), string(key2))"),
  ("tx_set.go:SUnionByTwoBuckets", "call", "tx.checkTxIsClosed()"),
  ("tx_set.go:SUnionByTwoBuckets", "if", "!ok"),
  ("tx_set.go:SUnionByTwoBuckets", "return", "ErrBucketAndKey(bucket1, key1)"),
  ("tx_set.go:SUnionByTwoBuckets", "if", "!ok"),
  ("tx_set.go:SUnionByTwoBuckets", "return", "ErrBucketAndKey(bucket2, key1)"),
  ("tx_set.go:SUnionByTwoBuckets", "if", "!set1.SHasKey(string(key1))"),
  ("tx_set.go:SUnionByTwoBuckets", "return", "ErrNotFoundKeyInBucket(bucket1, key1)"),
  ("tx_set.go:SUnionByTwoBuckets", "if", "!set2.SHasKey(string(key2))"),
  ("tx_set.go:SUnionByTwoBuckets", "return", "ErrNotFoundKeyInBucket(bucket2, key2)"),
  ("tx_set.go:SUnionByTwoBuckets", "range", "set1.M[string(key1)]"),
  ("tx_set.go:SUnionByTwoBuckets", "call", "append(list, []byte(item1))"),
  ("tx_set.go:SUnionByTwoBuckets", "range", "set2.M[string(key2)]"),
  ("tx_set.go:SUnionByTwoBuckets", "if", "!ok"),
  ("tx_set.go:SUnionByTwoBuckets", "call", "append(list, []byte(item2))"),
  ("tx_set.go:ErrBucketAndKey", "return", "errors.New(\"not found bucket:\" + bucket + \",key:\" + string(key))"),
  ("tx_set.go:ErrNotFoundKeyInBucket", "return", "errors.New(string(key) + \" is not in the\" + bucket)")
]

theorem tx_api_set_ok : txApiOfSet = expectedTxApiSet := by
  rw [txApiOfSet, NutsProofs.toList_eq_fastToList]; decide +kernel

end NutsProofs.Facts
