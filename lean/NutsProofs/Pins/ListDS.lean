/-
  NutsProofs.Pins.ListDS — ds/list/list.go
-/
import NutsGen.Facts
namespace NutsProofs.Facts
open NutsGen.F

/-- ds/list/list.go, every function: what `Nuts.Model.ListDS` renders outside the regenerated integer kernels -/
def expectedListStmts : List (String × String × String) := [
  ("list.go:RPop", "call", "l.RPeek(key)"),
  ("list.go:RPop", "call", "append(l.Items[key][:0:0], l.Items[key][0:size-1]...)"),
  ("list.go:RPeek", "if", "!ok"),
  ("list.go:RPeek", "call", "l.Size(key)"),
  ("list.go:RPeek", "if", "size > 0"),
  ("list.go:RPush", "range", "values"),
  ("list.go:RPush", "call", "append(l.Items[key], value)"),
  ("list.go:RPush", "return", "l.Size(key)"),
  ("list.go:LPush", "call", "l.Size(key)"),
  ("list.go:LPush", "for", "i = 1; i <= size; i++"),
  ("list.go:LPush", "if", "i-1 < size"),
  ("list.go:LPush", "for", "i = valueLen - 1; i >= 0; i--"),
  ("list.go:LPop", "call", "l.LPeek(key)"),
  ("list.go:LPop", "if", "l.Items[key] != nil"),
  ("list.go:LPop", "call", "append(l.Items[key][:0:0], l.Items[key][1:]...)"),
  ("list.go:LPop", "return", "errors.New(\"list is empty\")"),
  ("list.go:LPeek", "if", "!ok"),
  ("list.go:LPeek", "if", "size > 0"),
  ("list.go:LPeek", "call", "l.Size(key)"),
  ("list.go:Size", "if", "!ok"),
  ("list.go:Size", "return", "len(l.Items[key])"),
  ("list.go:LRange", "call", "l.Size(key)"),
  ("list.go:LRange", "if", "start >= 0 && end < 0"),
  ("list.go:LRange", "if", "start < 0 && end >= 0"),
  ("list.go:LRange", "if", "start < 0 && end < 0"),
  ("list.go:LRange", "if", "start < 0"),
  ("list.go:LRange", "if", "end >= size"),
  ("list.go:LRange", "if", "start > end"),
  ("list.go:LRange", "return", "errors.New(\"start or end error\")"),
  ("list.go:LRem", "if", "!ok"),
  ("list.go:LRem", "call", "l.Size(key)"),
  ("list.go:LRem", "if", "count < -size"),
  ("list.go:LRem", "call", "l.LRemNum(key, count, value)"),
  ("list.go:LRem", "if", "needRemovedNum == 0"),
  ("list.go:LRem", "if", "count == 0"),
  ("list.go:LRem", "if", "count > 0"),
  ("list.go:LRem", "range", "tempVal"),
  ("list.go:LRem", "if", "realRemovedNum < count && bytes.Equal(v, value)"),
  ("list.go:LRem", "if", "count < 0"),
  ("list.go:LRem", "for", "i := size - 1; i >= 0; i--"),
  ("list.go:LRem", "if", "realRemovedNum < count && bytes.Equal(v, value)"),
  ("list.go:LRem", "for", "i := 0; i < newTempValLen/2; i++"),
  ("list.go:LRemNum", "if", "!ok"),
  ("list.go:LRemNum", "call", "l.Size(key)"),
  ("list.go:LRemNum", "if", "count > size"),
  ("list.go:LRemNum", "if", "count < -size"),
  ("list.go:LRemNum", "if", "count < 0"),
  ("list.go:LRemNum", "range", "tempVal"),
  ("list.go:LRemNum", "if", "count > 0 && (removedNum == count)"),
  ("list.go:LRemNum", "if", "bytes.Equal(v, value)"),
  ("list.go:LSet", "if", "!ok"),
  ("list.go:LSet", "call", "l.Size(key)"),
  ("list.go:LSet", "if", "index >= size || index < 0"),
  ("list.go:Ltrim", "if", "!ok"),
  ("list.go:Ltrim", "call", "l.LRange(key, start, end)"),
  ("list.go:Ltrim", "call", "append(l.Items[key][:0:0], newItems...)")]

theorem list_stmts_ok : listStmts = expectedListStmts := rfl

end NutsProofs.Facts
