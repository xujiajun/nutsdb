/-
  NutsProofs.Lemmas.Replay — recovery: what `replay` and `Open` do with a log.

  Record level (the core of C10): `replay` looks at the records whose transaction has a record with the commit mark
  and at no others, wherever they lie, so an unmarked suffix of a fresh transaction is invisible
  (`uncommitted_suffix_invisible`; ids must be fresh: finding D-TXID). `replay` and
  `Open` change the indexes only (`IdxOnly`). On whole logs `replay` is the fold of the appliers (`replay_kvOnly`,
  `replay_ok`), and `Open` is `replay` from a state that holds the files and no index (`openDB_cases`,
  `openDB_untorn`); together: `Open` builds the indexes the marked part of the log denotes (`open_of_log`).
-/
import Nuts.Model.Tx
import NutsProofs.Pins.Commit
import NutsProofs.Lemmas.Files
import NutsProofs.Lemmas.LogIndex
namespace NutsProofs.Replay
open Nuts Nuts.Model Nuts.Model.DB NutsProofs.Reopen NutsProofs.ReopenAll

abbrev LogRec := Rec × Nat × Nat

/-- the records recovery looks at -/
def visible (rs : List LogRec) (ids : List Nat) : List LogRec := rs.filter fun x => ids.contains x.1.txid

theorem visible_cons (x : LogRec) (rest : List LogRec) (ids : List Nat) :
    visible (x :: rest) ids = if ids.contains x.1.txid then x :: visible rest ids else visible rest ids :=
  List.filter_cons

theorem replay_visible (s : State) (rs : List LogRec) (ids : List Nat) :
    replay s rs ids = replay s (visible rs ids) ids := by
  induction rs generalizing s with
  | nil => rfl
  | cons x rest ih =>
    obtain ⟨r, fid, pos⟩ := x
    rw [visible_cons]
    cases h : ids.contains r.txid
    · simp only [replay, h, Bool.not_false, Bool.false_eq_true, ↓reduceIte]
      exact ih _
    · simp only [replay, h, Bool.not_true, Bool.false_eq_true, ↓reduceIte]
      split
      · exact ih _
      · split
        · rfl
        · split <;> first | rfl | exact ih _

theorem committedIds_append (a b : List LogRec) : committedIds (a ++ b) = committedIds a ++ committedIds b := by
  simp [committedIds]

theorem committedIds_uncommitted (b : List LogRec) (h : ∀ x ∈ b, x.1.status = 0) : committedIds b = [] := by
  unfold committedIds
  rw [List.map_eq_nil_iff, List.filter_eq_nil_iff]
  intro x hx
  simp [h x hx]

theorem mem_committedIds (L : List LogRec) (id : Nat) :
    id ∈ committedIds L ↔ ∃ x ∈ L, x.1.status = 1 ∧ x.1.txid = id := by
  simp only [committedIds, List.mem_map, List.mem_filter, beq_iff_eq, and_assoc]

/-- **C10 (no partial transaction).** A log followed by any records of a transaction that has no
commit marker anywhere (a crash before its last write, a failed commit) recovers exactly as the log
alone: same committed ids, same replay — provided the transaction's id is fresh. -/
theorem uncommitted_suffix_invisible (s : State) (log extra : List LogRec)
    (hst : ∀ x ∈ extra, x.1.status = 0)
    (hfresh : ∀ x ∈ extra, ∀ y ∈ log, y.1.txid ≠ x.1.txid) :
    committedIds (log ++ extra) = committedIds log ∧
    replay s (log ++ extra) (committedIds (log ++ extra)) = replay s log (committedIds log) := by
  have hc : committedIds (log ++ extra) = committedIds log := by
    rw [committedIds_append, committedIds_uncommitted extra hst, List.append_nil]
  refine ⟨hc, ?_⟩
  rw [hc, replay_visible s (log ++ extra), replay_visible s log]
  congr 1
  unfold visible
  rw [List.filter_append]
  have : extra.filter (fun x => (committedIds log).contains x.1.txid) = [] := by
    rw [List.filter_eq_nil_iff]
    intro x hx hcon
    obtain ⟨y, hy, _, hyx⟩ := (mem_committedIds log _).mp (List.contains_iff_mem.mp hcon)
    exact hfresh x hx y hy hyx
  rw [this, List.append_nil]

/-- the two structural facts of `Tx.Commit` (regenerated from the source on every run) that make the
record-level argument apply to the code: the commit marker is set on the last record only, before
it is written; the id enters `committedTxIds` only after that write. (This module imports `Pins.Commit` for them:
every property that rests on recovery thereby rests on the pinned commit loop.) -/
theorem commit_marker_facts :
    Facts.items "status" = [("status", "i == lastIndex", "entry.Meta.status = Committed")] ∧
    (NutsGen.F.commitLoop.findIdx? (·.1 == "write")).getD 99 < (NutsGen.F.commitLoop.findIdx? (·.1 == "committedIds")).getD 0 :=
  ⟨Facts.commit_marker_last_only.1, Facts.commit_ids_after_last_write.2⟩

/-! ### recovery changes the indexes only -/

def IdxOnly (s s' : State) : Prop :=
  ∃ kv l st z, s' = { s with kv := kv, lists := l, sets := st, zsets := z }

namespace IdxOnly
variable {s s' s'' : State}
theorem refl (s : State) : IdxOnly s s := ⟨_, _, _, _, rfl⟩
theorem trans : IdxOnly s s' → IdxOnly s' s'' → IdxOnly s s'' := by
  rintro ⟨_, _, _, _, rfl⟩ ⟨_, _, _, _, rfl⟩; exact ⟨_, _, _, _, rfl⟩
theorem files : IdxOnly s s' → s'.files = s.files := by rintro ⟨_, _, _, _, rfl⟩; rfl
theorem opt : IdxOnly s s' → s'.opt = s.opt := by rintro ⟨_, _, _, _, rfl⟩; rfl
theorem committed : IdxOnly s s' → s'.committed = s.committed := by rintro ⟨_, _, _, _, rfl⟩; rfl
theorem activeFid : IdxOnly s s' → s'.activeFid = s.activeFid := by rintro ⟨_, _, _, _, rfl⟩; rfl
theorem hintFid : IdxOnly s s' → s'.hintFid = s.hintFid := by rintro ⟨_, _, _, _, rfl⟩; rfl
theorem writeOff : IdxOnly s s' → s'.writeOff = s.writeOff := by rintro ⟨_, _, _, _, rfl⟩; rfl
theorem activeUnlinked : IdxOnly s s' → s'.activeUnlinked = s.activeUnlinked := by rintro ⟨_, _, _, _, rfl⟩; rfl
end IdxOnly

theorem applyOther_idxOnly (s : State) (r : Rec) (c : Bool) : IdxOnly s (applyOther s r c).1 :=
  ⟨s.kv, _, _, _, (applyOther_eq s r c).1⟩

/-! ### `replay`, one record at a time -/

theorem replay_skip (s : State) (r : Rec) (fid pos : Nat) (rest : List LogRec) (ids : List Nat)
    (h : ids.contains r.txid = false) : replay s ((r, fid, pos) :: rest) ids = replay s rest ids := by
  simp only [replay, h, Bool.not_false, if_true]

theorem replay_kv (s : State) (r : Rec) (fid pos : Nat) (rest : List LogRec) (ids : List Nat)
    (h : ids.contains r.txid = true) (hkv : r.ds = dsKV) :
    replay s ((r, fid, pos) :: rest) ids = replay (applyKV s { r with status := 1 } fid pos) rest ids := by
  simp only [replay, h, hkv, Bool.not_true, Bool.false_eq_true, if_false, beq_self_eq_true, if_true]

/-- a structure record: an entry is needed (key+value mode); an error of the structure call is ignored -/
theorem replay_other (s : State) (r : Rec) (fid pos : Nat) (rest : List LogRec) (ids : List Nat)
    (h : ids.contains r.txid = true) (hkv : r.ds ≠ dsKV) (hm : s.opt.mode = 0) :
    replay s ((r, fid, pos) :: rest) ids =
      if (applyOther s r false).2 = .panic then ((applyOther s r false).1, .panic)
      else replay (applyOther s r false).1 rest ids := by
  have hkv' : (r.ds == dsKV) = false := by simpa using hkv
  simp only [replay, h, hkv', hm, Bool.not_true, Bool.false_eq_true, if_false, bne_self_eq_false]
  cases (applyOther s r false).2 <;> simp

theorem replay_idxOnly (rs : List LogRec) (ids : List Nat) (s : State) : IdxOnly s (replay s rs ids).1 := by
  induction rs generalizing s with
  | nil => exact .refl s
  | cons x rest ih =>
    obtain ⟨r, fid, pos⟩ := x
    simp only [replay]
    split
    · exact ih s
    · split
      · exact IdxOnly.trans ⟨_, _, _, _, rfl⟩ (ih _)
      · split
        · exact .refl s
        · have h := applyOther_idxOnly s r false
          split <;> first | exact h | exact h.trans (ih _)

/-! ### `replay` on whole logs: the fold of the appliers -/

theorem replay_kvOnly (rs : List LogRec) (ids : List Nat) (s : State) (hkv : ∀ x ∈ rs, x.1.ds = dsKV) :
    replay s rs ids = ({ s with kv := foldLog s.kv (visible rs ids) }, .ok ()) := by
  induction rs generalizing s with
  | nil => rfl
  | cons x rest ih =>
    obtain ⟨r, fid, pos⟩ := x
    have hrest : ∀ y ∈ rest, y.1.ds = dsKV := fun y hy => hkv y (List.mem_cons_of_mem _ hy)
    rw [visible_cons]
    cases hc : ids.contains r.txid
    · rw [replay_skip s r fid pos rest ids hc, ih s hrest]; rfl
    · rw [replay_kv s r fid pos rest ids hc (hkv _ (List.mem_cons_self ..)), ih _ hrest]; rfl

theorem replay_ok (rs : List LogRec) (ids : List Nat) (s : State)
    (hv : ∀ x ∈ rs, ids.contains x.1.txid = true) (hm : s.opt.mode = 0 ∨ ∀ x ∈ rs, x.1.ds = dsKV)
    (hnp : NoPanic (sv s) (rs.map (·.1)) false) :
    (replay s rs ids).2 = .ok () ∧ (replay s rs ids).1.kv = foldLog s.kv (rs.filter isKVrec) ∧
    sv (replay s rs ids).1 = foldSV (sv s) (rs.map (·.1)) false := by
  induction rs generalizing s with
  | nil => exact ⟨rfl, rfl, rfl⟩
  | cons x rest ih =>
    obtain ⟨r, fid, pos⟩ := x
    have hc := hv (r, fid, pos) (by simp)
    have hv' : ∀ y ∈ rest, ids.contains y.1.txid = true := fun y hy => hv y (by simp [hy])
    rw [List.map_cons, noPanic_cons] at hnp
    by_cases hds : r.ds = dsKV
    · have hstep := stepSV_kv (sv s) r false hds
      rw [hstep] at hnp
      rw [replay_kv s r fid pos rest ids hc hds, List.filter_cons_of_pos (by simp [isKVrec, hds]),
        List.map_cons, foldSV, List.foldl_cons, hstep]
      exact ih _ hv' (hm.imp id fun h y hy => h y (by simp [hy])) hnp.2
    · have hm0 : s.opt.mode = 0 := hm.resolve_right fun h => hds (h (r, fid, pos) (by simp))
      obtain ⟨he, ho⟩ := applyOther_eq s r false
      have hsv := applyOther_sv s r false
      rw [replay_other s r fid pos rest ids hc hds hm0, if_neg (by rw [ho]; exact hnp.1),
        List.filter_cons_of_neg (by simp [isKVrec, hds]), List.map_cons, foldSV, List.foldl_cons, ← hsv,
        show s.kv = (applyOther s r false).1.kv by rw [he]]
      exact ih _ hv' (Or.inl (by rw [(applyOther_idxOnly s r false).opt]; exact hm0)) (hsv ▸ hnp.2)

/-! ### `Open` is `replay` from a state that holds the files and no index -/

/-- the state `Open` builds before it replays the log (`ids`: the committed transaction ids it found) -/
def openInit (opt : Opts) (fs : List File) (ids : List Nat) : State :=
  let maxFid := (fs.map (·.fid)).foldl max 0
  let fs' := fileEnsure fs maxFid
  let act := (fileGet? fs' maxFid).getD { fid := maxFid, recs := [] }
  { opt := opt.core, files := fs', activeFid := maxFid, hintFid := maxFid, writeOff := fileEnd act,
    actualSize := fileEnd act, opened := true, committed := ids }

/-- the three ways through `Open`: no file; a torn record; the replay of all records -/
theorem openDB_cases (opt : Opts) (fs : List File) (P : State × Outcome Unit → Prop)
    (hnil : fs.isEmpty = true → P (openInit opt fs [], .ok ()))
    (htorn : (openInit opt fs []).files.any (·.torn) = true → P (openInit opt fs [], .err))
    (hrep : (openInit opt fs []).files.any (·.torn) = false →
      P (replay (openInit opt fs (committedIds (allRecs (openInit opt fs []).files)).eraseDups)
        (allRecs (openInit opt fs []).files) (committedIds (allRecs (openInit opt fs []).files)))) :
    P (openDB opt fs) := by
  unfold openDB
  simp only
  split
  · rename_i h; exact hnil h
  · split
    · rename_i h; exact htorn h
    · rename_i h; exact hrep (Bool.eq_false_iff.mpr h)

theorem openDB_base (opt : Opts) (fs : List File) : ∃ ids, IdxOnly (openInit opt fs ids) (openDB opt fs).1 :=
  openDB_cases opt fs (fun p => ∃ ids, IdxOnly (openInit opt fs ids) p.1) (fun _ => ⟨[], .refl _⟩)
    (fun _ => ⟨[], .refl _⟩) fun _ => ⟨_, replay_idxOnly ..⟩

theorem openDB_opt (opt : Opts) (fs : List File) : (openDB opt fs).1.opt = opt.core := by
  obtain ⟨_, h⟩ := openDB_base opt fs; exact h.opt

theorem openDB_untorn (opt : Opts) (fs : List File) (hne : fs ≠ []) (hunt : ∀ g ∈ fs, g.torn = false) :
    openDB opt fs =
      replay (openInit opt fs (committedIds (allRecs fs)).eraseDups) (allRecs fs) (committedIds (allRecs fs)) := by
  have hemp : fs.isEmpty = false := by cases fs with | nil => exact absurd rfl hne | cons _ _ => rfl
  have htorn : fs.any (·.torn) = false := by
    rw [List.any_eq_false]; intro g hg; rw [hunt g hg]; simp
  simp only [openDB, openInit, fileEnsure_max fs hne, hemp, htorn, Bool.false_eq_true, if_false]

theorem openDB_nil (opt : Opts) :
    openDB opt [] = ({ opt := opt.core, files := [{ fid := 0, recs := [] }], opened := true }, .ok ()) := rfl

/-- **`Open` computes what the marked part of the log denotes.** `L`: records that all belong to marked
transactions; `E`: unmarked records of other transactions (what a crash or a failed `Commit` leaves behind; `[]`
after a clean shutdown). -/
theorem open_of_log (fs : List File) (opt : Opts) (L E : List LogRec)
    (hne : fs ≠ []) (hunt : ∀ g ∈ fs, g.torn = false) (hrecs : allRecs fs = L ++ E)
    (hLc : ∀ x ∈ L, x.1.txid ∈ committedIds L)
    (hEs : ∀ x ∈ E, x.1.status = 0) (hEf : ∀ x ∈ E, ∀ y ∈ L, y.1.txid ≠ x.1.txid)
    (hm : opt.mode = 0 ∨ ∀ x ∈ L, x.1.ds = dsKV) (hnp : NoPanic emptySV (L.map (·.1)) false) :
    (openDB opt fs).2 = .ok () ∧ (openDB opt fs).1.kv = kvOfLog (L.filter isKVrec) ∧
    sv (openDB opt fs).1 = foldSV emptySV (L.map (·.1)) false ∧
    (∀ id, id ∈ (openDB opt fs).1.committed ↔ id ∈ committedIds L) := by
  rw [openDB_untorn opt fs hne hunt, hrecs]
  obtain ⟨hids, hrep⟩ := uncommitted_suffix_invisible
    (openInit opt fs (committedIds (L ++ E)).eraseDups) L E hEs hEf
  rw [hrep]
  obtain ⟨h1, h2, h3⟩ := replay_ok L (committedIds L) (openInit opt fs (committedIds (L ++ E)).eraseDups)
    (fun x hx => by simpa using hLc x hx) hm hnp
  refine ⟨h1, h2, h3, fun id => ?_⟩
  rw [(replay_idxOnly ..).committed, ← hids]
  simp [openInit]

end NutsProofs.Replay
