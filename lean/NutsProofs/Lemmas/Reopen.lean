/-
  NutsProofs.Lemmas.Reopen — recovery rebuilds the state, key/value histories: along every history of successful
  key/value commits the KV index is (up to the status byte of the cached records) the fold of `applyKV` over the log
  in write order, the log in write order is what `Open` reads, every record's transaction is committed — hence
  `Open` on the files of the state, in either RAM mode, rebuilds the same index, hints included; and a crash inside
  `Commit` leaves files from which `Open` rebuilds the state before the transaction.
  What `Commit` does with the log is `Lemmas/LogCommit.lean`, what `Open` does with it `Lemmas/Replay.lean`; here is the
  invariant that ties them.
-/
import NutsProofs.Lemmas.LogCommit
namespace NutsProofs.Reopen
open Nuts Nuts.Model Nuts.Model.DB NutsProofs.MergeKV
open NutsProofs.ReopenAll (filter_isKVrec_kvOnly noPanic_kvOnly)
open NutsProofs.LogCommit (commit_log commit_kvOnly commitLoop_log committedIds_commit reopen_frame writeUnmarked_log Appended)
open NutsProofs.Replay (open_of_log)

/-- a key/value write transaction: non-empty, key/value records that fit a segment, one id -/
def KVTx (seg : Nat) (t : List Rec) : Prop :=
  t ≠ [] ∧ ∃ tid, ∀ r ∈ t, r.ds = dsKV ∧ ¬ r.size > seg ∧ r.txid = tid

/-- the invariant of key/value histories: shape of the directory, the index is the fold of the log, every
record of the log is a key/value record of a committed transaction, and `committed` holds exactly the ids
the log marks -/
structure LogInv (s : State) : Prop where
  shape : Shape s
  idx : normKV s.kv = kvOfLog (allRecs s.files)
  kvOnly : ∀ x ∈ allRecs s.files, x.1.ds = dsKV
  allCommitted : ∀ x ∈ allRecs s.files, x.1.txid ∈ committedIds (allRecs s.files)
  ids : ∀ id, id ∈ s.committed ↔ id ∈ committedIds (allRecs s.files)

theorem commit_kv_log (s : State) (t : List Rec) (tid : Nat) (h : Shape s) (hne : t ≠ [])
    (hr : ∀ r ∈ t, r.ds = dsKV ∧ ¬ r.size > s.opt.seg ∧ r.txid = tid) :
    commit s t = ((commitLoop s t).1, .ok ()) ∧
    (∃ E : List LogRec, E.map (·.1) = marked t ∧ (∀ x ∈ E, x.1.ds = dsKV) ∧ Appended s E (commit s t).1) ∧
    (∀ id, id ∈ (commit s t).1.committed ↔ (id ∈ s.committed ∨ id = tid)) := by
  obtain ⟨_, ⟨E, hex, hE⟩, hcom⟩ := commit_log s t tid h hne fun r hr' => (hr r hr').2
  exact ⟨commit_kvOnly s t hne (commitLoop_log t s h fun r hr' => (hr r hr').2.1).1 fun r hr' => (hr r hr').1,
    ⟨E, hex, forall_marked (fun r l h => (markLast_ds r l).trans h) hex fun r hr' => (hr r hr').1, hE⟩, hcom⟩

/-- `Commit` of a key/value transaction keeps the invariant -/
theorem commit_kv (s : State) (t : List Rec) (h : LogInv s) (ht : KVTx s.opt.seg t) :
    (commit s t).2 = .ok () ∧ LogInv (commit s t).1 ∧ (commit s t).1.opt = s.opt := by
  obtain ⟨hne, tid, hr⟩ := ht
  obtain ⟨hc, ⟨E, hex, hkvE, hE⟩, hcom⟩ := commit_kv_log s t tid h.shape hne hr
  obtain ⟨hall, hids⟩ := committedIds_commit (allRecs s.files) E t tid hne hex (fun r hr' => (hr r hr').2.2) h.allCommitted
  refine ⟨by rw [hc], ⟨hE.shape, ?_, ?_, hE.log ▸ hall, fun id => by rw [hcom, hE.log, hids, h.ids]⟩, hE.opt⟩
  · rw [hE.kv, filter_isKVrec_kvOnly E hkvE, normKV_rawFold, hE.log, kvOfLog_append_list, h.idx]
  · rw [hE.log]; exact fun x hx => (List.mem_append.mp hx).elim (h.kvOnly x) (hkvE x)

/-! ### Open on the files of such a state -/

/-- `Open` on a directory whose log is a committed key/value log `L` followed by uncommitted records `E` of fresh
transactions: the index of `L` alone, the ids of `L` alone -/
theorem open_ignores_uncommitted_suffix (fs : List File) (opt : Opts) (L E : List LogRec)
    (hne : fs ≠ []) (hunt : ∀ g ∈ fs, g.torn = false) (hrecs : allRecs fs = L ++ E)
    (hLkv : ∀ x ∈ L, x.1.ds = dsKV) (hLc : ∀ x ∈ L, x.1.txid ∈ committedIds L)
    (hEs : ∀ x ∈ E, x.1.status = 0) (hEf : ∀ x ∈ E, ∀ y ∈ L, y.1.txid ≠ x.1.txid) :
    (openDB opt fs).2 = .ok () ∧ (openDB opt fs).1.kv = kvOfLog L ∧
    (∀ id, id ∈ (openDB opt fs).1.committed ↔ id ∈ committedIds L) := by
  obtain ⟨h1, h2, _, h4⟩ := open_of_log fs opt L E hne hunt hrecs hLc hEs hEf (Or.inr hLkv) (noPanic_kvOnly _ _ _ hLkv)
  exact ⟨h1, filter_isKVrec_kvOnly L hLkv ▸ h2, h4⟩

/-- **`Open` after anything that only appended unmarked records** `E` of other transactions (`E = []`: a clean
shutdown; else what a crash inside `Commit` left), in either RAM mode -/
theorem LogInv.open_suffix {s : State} (h : LogInv s) (fs : List File) (E : List LogRec) (hne : fs ≠ [])
    (hunt : ∀ g ∈ fs, g.torn = false) (hrecs : allRecs fs = allRecs s.files ++ E) (hEs : ∀ x ∈ E, x.1.status = 0)
    (hEf : ∀ x ∈ E, ∀ y ∈ allRecs s.files, y.1.txid ≠ x.1.txid) (opt : Opts) :
    (openDB opt fs).2 = .ok () ∧ (openDB opt fs).1.kv = normKV s.kv ∧
    (∀ id, id ∈ (openDB opt fs).1.committed ↔ id ∈ s.committed) := by
  obtain ⟨h1, h2, h3⟩ := open_ignores_uncommitted_suffix fs opt (allRecs s.files) E hne hunt hrecs h.kvOnly h.allCommitted hEs hEf
  exact ⟨h1, h2.trans h.idx.symm, fun id => (h3 id).trans (h.ids id).symm⟩

/-- **Recovery rebuilds the index.** `Open` (with any options) on the files of a state that satisfies the
invariant succeeds, reads the files unchanged, and builds exactly the index of the state — same keys in
the same order, same cached records up to the status byte, same hints — and the same set of committed
transaction ids. -/
theorem open_rebuilds (s : State) (h : LogInv s) (opt : Opts) :
    (openDB opt s.files).2 = .ok () ∧ (openDB opt s.files).1.kv = normKV s.kv ∧
    (openDB opt s.files).1.files = s.files ∧
    (∀ id, id ∈ (openDB opt s.files).1.committed ↔ id ∈ s.committed) := by
  obtain ⟨h1, h2, h3⟩ := h.open_suffix s.files [] h.shape.files_ne h.shape.untorn (by simp) (by simp) (by simp) opt
  exact ⟨h1, h2, (reopen_frame s h.shape opt).2.1, h3⟩

/-! ### histories of commits and reopens -/

theorem logInv_init (opt : Opts) : LogInv (openDB opt []).1 := by
  have h := LogCommit.shape_init opt
  rw [Replay.openDB_nil] at h ⊢
  exact ⟨h, rfl, nofun, nofun, fun _ => Iff.rfl⟩

theorem logInv_reopen (s : State) (h : LogInv s) (opt : Opts) : LogInv (openDB opt s.files).1 := by
  obtain ⟨_, hkv, hfiles, hids⟩ := open_rebuilds s h opt
  refine ⟨(reopen_frame s h.shape opt).1, ?_, ?_, ?_, fun id => ?_⟩ <;> rw [hfiles]
  · rw [hkv, normKV_idem]; exact h.idx
  · exact h.kvOnly
  · exact h.allCommitted
  · rw [hids]; exact h.ids id

inductive Op where
  | commit (t : List Rec)
  | reopen (opt : Opts)

def stepOp (s : State) : Op → State
  | .commit t => (commit s t).1
  | .reopen o => (openDB o s.files).1

/-- every committed transaction is a key/value transaction that fits the segment size in force -/
def OpsOk (s : State) : List Op → Prop
  | [] => True
  | .commit t :: rest => KVTx s.opt.seg t ∧ OpsOk (commit s t).1 rest
  | .reopen o :: rest => OpsOk (openDB o s.files).1 rest

/-- induction over key/value histories with the log invariant at hand -/
theorem logInv_induct {P : State → Prop}
    (hc : ∀ s t, LogInv s → P s → KVTx s.opt.seg t → P (commit s t).1)
    (hr : ∀ s o, LogInv s → P s → P (openDB o s.files).1)
    (ops : List Op) (s : State) (hi : LogInv s) (h : P s) (hok : OpsOk s ops) : P (ops.foldl stepOp s) := by
  induction ops generalizing s with
  | nil => exact h
  | cons op rest ih =>
    cases op with
    | commit t => exact ih _ (commit_kv s t hi hok.1).2.1 (hc s t hi h hok.1) hok.2
    | reopen o => exact ih _ (logInv_reopen s hi o) (hr s o hi h) hok

theorem logInv_ops (ops : List Op) (s : State) (h : LogInv s) (hok : OpsOk s ops) : LogInv (ops.foldl stepOp s) :=
  logInv_induct (fun s t _ h ht => (commit_kv s t h ht).2.1) (fun s o _ h => logInv_reopen s h o) ops s h h hok

theorem logInv_reached (opt0 : Opts) (ops : List Op) (hok : OpsOk (openDB opt0 []).1 ops) :
    LogInv (ops.foldl stepOp (openDB opt0 []).1) :=
  logInv_ops ops _ (logInv_init opt0) hok

/-- the records a history leaves in the files, in order: each committed transaction's records, the last
one of each carrying the commit mark -/
def logOf : List Op → List Rec
  | [] => []
  | .commit t :: rest => marked t ++ logOf rest
  | .reopen _ :: rest => logOf rest

theorem log_of_ops (ops : List Op) (s : State) (h : LogInv s) (hok : OpsOk s ops) :
    (allRecs (ops.foldl stepOp s).files).map (·.1) = (allRecs s.files).map (·.1) ++ logOf ops := by
  induction ops generalizing s with
  | nil => simp [logOf]
  | cons op rest ih =>
    cases op with
    | commit t =>
      obtain ⟨⟨hne, tid, hr⟩, hrest⟩ := hok
      obtain ⟨_, ⟨E, hex, _, hE⟩, _⟩ := commit_kv_log s t tid h.shape hne hr
      rw [List.foldl_cons, stepOp, logOf, ih _ (commit_kv s t h ⟨hne, tid, hr⟩).2.1 hrest, hE.log, List.map_append, hex,
        List.append_assoc]
    | reopen o =>
      rw [List.foldl_cons, stepOp, logOf, ih _ (logInv_reopen s h o) hok, (open_rebuilds s h o).2.2.1]

/-- the state when the process dies after the first `j` records of transaction `t` are written (none of
them the last: `j < t.length`), as `commitLoop` builds it -/
def crashAfter (s : State) (t : List Rec) (j : Nat) : State := (t.take j).foldl (fun s r => writeRec s r false) s

/-- **Crash inside Commit.** From a state with the invariant, a key/value transaction `t` with a fresh id
starts to commit and the process dies after `j < t.length` of its records reached the files. `Open` on what
is left succeeds and rebuilds the index and the committed ids of the state before the transaction — nothing
of the partial transaction is visible, nothing committed earlier is lost. -/
theorem crash_in_commit_recovers_prestate (s : State) (h : LogInv s) (t : List Rec) (tid : Nat) (j : Nat)
    (ht : ∀ r ∈ t, r.ds = dsKV ∧ r.txid = tid ∧ r.status = 0)
    (hfresh : ∀ x ∈ allRecs s.files, x.1.txid ≠ tid) (opt : Opts) :
    (openDB opt (crashAfter s t j).files).2 = .ok () ∧
    (openDB opt (crashAfter s t j).files).1.kv = normKV s.kv ∧
    (∀ id, id ∈ (openDB opt (crashAfter s t j).files).1.committed ↔ id ∈ s.committed) := by
  obtain ⟨E, hex, hA⟩ := writeUnmarked_log (t.take j) s h.shape
  have hE : ∀ x ∈ E, x.1.txid = tid ∧ x.1.status = 0 := fun x hx =>
    (ht x.1 (List.mem_of_mem_take (hex ▸ List.mem_map_of_mem hx))).2
  exact h.open_suffix (crashAfter s t j).files E hA.shape.files_ne hA.shape.untorn hA.log (fun x hx => (hE x hx).2)
    (fun x hx y hy => by rw [(hE x hx).1]; exact hfresh y hy) opt

end NutsProofs.Reopen
