/-
  NutsProofs.Lemmas.LRem — `List.LRem` as coded (count the occurrences with a cap, then drop that many from
  the head or from the tail, copying into a slice of the expected length) against Redis `LREM`.
-/
import Nuts.Model.ListDS
import Nuts.Spec.RList
import NutsProofs.Lemmas.Kernels
namespace NutsProofs.LRem
open Nuts Nuts.Model Nuts.Spec NutsProofs.Kernels

def occ (l : List Bytes) (v : Bytes) : Nat := RList.occurrences l v

theorem occ_nil (v : Bytes) : occ [] v = 0 := rfl

theorem occ_cons (x : Bytes) (xs : List Bytes) (v : Bytes) : occ (x :: xs) v = (if x = v then 1 else 0) + occ xs v := by
  unfold occ RList.occurrences
  by_cases h : x = v <;> simp [h, Nat.add_comm]

theorem occ_le_length (l : List Bytes) (v : Bytes) : occ l v ≤ l.length := by
  unfold occ RList.occurrences; exact List.length_filter_le _ _

theorem occ_reverse (l : List Bytes) (v : Bytes) : occ l.reverse v = occ l v := by
  unfold occ RList.occurrences; rw [List.filter_reverse, List.length_reverse]

/-- the counting loop of `LRemNum` -/
theorem countCapped_eq (l : List Bytes) (v : Bytes) (cap : Int) (acc : Nat) (hacc : cap > 0 → (acc : Int) ≤ cap) :
    ListDS.countCapped l v cap acc = if cap > 0 then min cap.toNat (acc + occ l v) else acc + occ l v := by
  induction l generalizing acc with
  | nil =>
    rw [ListDS.countCapped, occ_nil, Nat.add_zero]
    split
    · have := hacc ‹_›; omega
    · rfl
  | cons x xs ih =>
    have hstep : (if x = v then acc + 1 else acc) + occ xs v = acc + occ (x :: xs) v := by
      rw [occ_cons]; split <;> omega
    rw [ListDS.countCapped]
    by_cases hfull : cap > 0 ∧ (acc : Int) = cap
    · rw [if_pos hfull, if_pos hfull.1]; omega
    · rw [if_neg hfull, ih _ (fun hc => by have := hacc hc; split <;> omega), hstep]

theorem removeN_zero (l : List Bytes) (v : Bytes) : RList.removeN l v 0 = l := by
  cases l <;> simp [RList.removeN]

/-- the dropping loop of `LRem` is Redis's "remove the first n occurrences": `k` is what may still be dropped -/
theorem removeFirst_eq (l : List Bytes) (v : Bytes) (n : Int) (removed k : Nat) (hk : n = removed + k) :
    ListDS.removeFirst l v n removed = (RList.removeN l v k, removed + min k (occ l v)) := by
  induction l generalizing removed k with
  | nil => simp [ListDS.removeFirst, RList.removeN, occ_nil]
  | cons x xs ih =>
    rw [ListDS.removeFirst, occ_cons]
    cases k with
    | zero =>
      rw [if_neg (fun h => by omega), ih removed 0 hk, removeN_zero, removeN_zero, Nat.zero_min, Nat.zero_min]
    | succ k =>
      rw [RList.removeN]
      by_cases hx : x = v
      · rw [if_pos ⟨by omega, hx⟩, ih (removed + 1) k (by omega), if_pos hx, if_pos hx]
        exact congrArg _ (by omega)
      · rw [if_neg (fun h => hx h.2), ih removed (k + 1) hk, if_neg hx, if_neg hx, Nat.zero_add]

theorem removeN_length (l : List Bytes) (v : Bytes) (n : Nat) : (RList.removeN l v n).length = l.length - min n (occ l v) := by
  induction l generalizing n with
  | nil => simp [RList.removeN]
  | cons x xs ih =>
    cases n with
    | zero => rw [removeN_zero, Nat.zero_min, Nat.sub_zero]
    | succ m =>
      rw [RList.removeN, occ_cons]
      by_cases hx : x = v
      · rw [if_pos hx, if_pos hx, ih m, Nat.add_comm 1, Nat.succ_min_succ, List.length_cons, Nat.add_sub_add_right]
      · have := occ_le_length xs v
        rw [if_neg hx, if_neg hx, List.length_cons, List.length_cons, ih (m + 1), Nat.zero_add,
          Nat.sub_add_comm (Nat.le_trans (Nat.min_le_right _ _) this)]

theorem removeN_all (l : List Bytes) (v : Bytes) (n : Nat) (h : occ l v ≤ n) : RList.removeN l v n = l.filter (· ≠ v) := by
  induction l generalizing n with
  | nil => simp [RList.removeN]
  | cons x xs ih =>
    rw [occ_cons] at h
    by_cases hx : x = v
    · simp only [hx, if_true] at h
      cases n with
      | zero => omega
      | succ m =>
        simp only [RList.removeN, hx, if_true, List.filter_cons, ne_eq, not_true_eq_false, decide_false, Bool.false_eq_true, if_false]
        exact ih m (by omega)
    · simp only [hx, if_false, Nat.zero_add] at h
      cases n with
      | zero =>
        rw [removeN_zero]
        have := ih 0 (by omega)
        rw [removeN_zero] at this
        rw [List.filter_cons_of_pos (by simpa using hx), ← this]
      | succ m =>
        simp only [RList.removeN, hx, if_false, List.filter_cons, ne_eq, not_false_eq_true, decide_true, if_true]
        rw [ih (m + 1) (by omega)]

theorem lremNumL_eq (l : List Bytes) (count : Int) (v : Bytes) (hn : (l.length : Int) < 4611686018427387904)
    (hlo : -(l.length : Int) ≤ count) (hhi : count ≤ l.length) :
    ListDS.lremNumL l count v = .ok (if count = 0 then occ l v else min count.natAbs (occ l v)) := by
  -- the cap of the counting loop is |count| (the negation does not wrap); it caps only when positive
  have hcap : (if count < 0 then wrap64 (-count) else count) = (count.natAbs : Int) := by
    split
    · rw [wrap64_of_inRange (by unfold inRange64; omega)]; omega
    · omega
  unfold ListDS.lremNumL
  rw [if_neg (by omega)]
  simp only [if_neg (show ¬ count < -(l.length : Int) by omega), hcap]
  rw [countCapped_eq l v _ 0 (fun _ => by omega), Nat.zero_add, Int.toNat_natCast]
  by_cases hz : count = 0
  · rw [if_pos hz, if_neg (by omega)]
  · rw [if_neg hz, if_pos (by omega)]

theorem filter_of_occ_zero (l : List Bytes) (v : Bytes) (h : occ l v = 0) : l.filter (· ≠ v) = l := by
  have := removeN_all l v 0 (by omega)
  rw [removeN_zero] at this
  exact this.symm

theorem removeN_of_occ_zero (l : List Bytes) (v : Bytes) (n : Nat) (h : occ l v = 0) : RList.removeN l v n = l := by
  rw [removeN_all l v n (by omega), filter_of_occ_zero l v h]

theorem rlrem_all (l : List Bytes) (c : Int) (v : Bytes) (h : c ≤ -(occ l v : Int)) :
    RList.lrem l c v = (l.filter (· ≠ v), occ l v) := by
  unfold RList.lrem
  by_cases h0 : c = 0
  · rw [if_pos h0]; rfl
  · rw [if_neg h0, if_neg (by omega), removeN_all _ _ _ (by rw [occ_reverse]; omega), List.filter_reverse,
      List.reverse_reverse]
    exact congrArg _ (Nat.min_eq_right (by show occ l v ≤ _; omega))

theorem rlrem_of_occ_zero (l : List Bytes) (c : Int) (v : Bytes) (h : occ l v = 0) : RList.lrem l c v = (l, 0) := by
  by_cases hc : c ≤ 0
  · rw [rlrem_all l c v (by omega), filter_of_occ_zero l v h, h]
  · have : RList.occurrences l v = 0 := h
    simp only [RList.lrem, if_neg (show ¬ c = 0 by omega), if_pos (show c > 0 by omega), removeN_of_occ_zero l v _ h,
      this, Nat.min_zero]

/-- the dropping loop from the head, then the copy into a slice of the expected length: the slice is filled
exactly, so nothing is padded and nothing runs past it (`g`: the copy is reversed back when the loop ran over
the reversed list) -/
theorem removeFirst_copy {α} (g : List Bytes → α) (l : List Bytes) (v : Bytes) (n : Int) (hn : 0 < n) (len : Nat)
    (hlen : len = l.length) :
    (if (ListDS.removeFirst l v n).1.length ≤ len - min n.toNat (occ l v) then
       Outcome.ok (g ((ListDS.removeFirst l v n).1 ++
         List.replicate (len - min n.toNat (occ l v) - (ListDS.removeFirst l v n).1.length) []), (ListDS.removeFirst l v n).2)
     else .panic) = .ok (g (RList.removeN l v n.toNat), min n.toNat (occ l v)) := by
  rw [removeFirst_eq l v n 0 n.toNat (by omega)]
  simp only [Nat.zero_add, removeN_length, hlen, Nat.le_refl, if_true, Nat.sub_self, List.replicate_zero, List.append_nil]

/-- **`LRem` is Redis `LREM`** for every count that is not above the size (machine integers, lists shorter
than 2^62): the first `count` occurrences from the head (`count > 0`), from the tail (`count < 0`, clamped at
`-size`), or all of them (`count = 0`) are removed and their number is returned; a count above the size is an
error; the copy loop never runs past its slice (no panic). -/
theorem lremL_spec (l : List Bytes) (count : Int) (v : Bytes) (hn : (l.length : Int) < 4611686018427387904) :
    ListDS.lremL l count v = if count > (l.length : Int) then .err else .ok (RList.lrem l count v) := by
  have hocc := occ_le_length l v
  unfold ListDS.lremL
  by_cases hbig : count > (l.length : Int)
  · rw [if_neg (by omega), if_pos hbig]
    simp only [ListDS.lremNumL, if_pos hbig]
  rw [if_neg hbig]
  have hspec : RList.lrem l count v = RList.lrem l (if count < -(l.length : Int) then -(l.length : Int) else count) v := by
    split
    · rw [rlrem_all l count v (by omega), rlrem_all l _ v (by omega)]
    · rfl
  rw [hspec]
  generalize hc : (if count < -(l.length : Int) then -(l.length : Int) else count) = c
  obtain ⟨hlo, hhi⟩ : -(l.length : Int) ≤ c ∧ c ≤ l.length := by rw [← hc]; split <;> omega
  simp only [lremNumL_eq l c v hn hlo hhi]
  have hneed : (if c = 0 then occ l v else min c.natAbs (occ l v)) = 0 ↔ occ l v = 0 := by split <;> omega
  by_cases hz : occ l v = 0
  · rw [if_pos (hneed.mpr hz), rlrem_of_occ_zero l c v hz]
  rw [if_neg (fun h => hz (hneed.mp h))]
  by_cases hc0 : c = 0
  · -- all of them, from the head
    subst hc0
    simp only [if_true]
    rw [if_pos (by omega)]
    have := removeFirst_copy id l v (occ l v) (by omega) l.length rfl
    simp only [Int.toNat_natCast, Nat.min_self] at this
    refine this.trans ?_
    rw [removeN_all l v _ (Nat.le_refl _)]
    rfl
  simp only [if_neg hc0]
  by_cases hpos : c > 0
  · rw [if_pos hpos, show c.natAbs = c.toNat by omega]
    refine (removeFirst_copy id l v c hpos l.length rfl).trans ?_
    simp only [RList.lrem, if_neg hc0, if_pos hpos]
    rfl
  · rw [if_neg hpos, wrap64_of_inRange (by unfold inRange64; omega), show c.natAbs = (-c).toNat by omega]
    have := removeFirst_copy List.reverse l.reverse v (-c) (by omega) l.length (List.length_reverse).symm
    rw [occ_reverse] at this
    refine this.trans ?_
    simp only [RList.lrem, if_neg hc0, if_neg hpos]
    rfl

end NutsProofs.LRem
