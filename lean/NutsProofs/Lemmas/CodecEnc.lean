/-
  NutsProofs.Lemmas.CodecEnc — what `Encode()` produces and what the decoder's table reads from it, for every record
  kind of the shape the three codecs share: header fields `F` behind a 4-byte checksum, which the encoder's table lists
  last under a name of its own (`cn`) and the decoder's under `"crc"`. The names of a table are distinct, so a lookup by
  name is a lookup by position (`valOf_of_mem`): the decoder reads back the values that were encoded, in their order.
-/
import NutsProofs.Lemmas.Codec
import NutsProofs.Lemmas.Crc
namespace NutsProofs.Codec
open Nuts Nuts.Model.Codec NutsProofs.Crc

/-- the header fields of a record kind, the checksum apart: distinct names, none of them the checksum's in either
table; inside the header behind the checksum and as wide as their slices; pairwise disjoint -/
structure HdrWF (F : Layout) (hsz : Nat) (cn : String) : Prop where
  names : ((F ++ [("crc", 0, 4, 4)] : Layout).map (·.1)).Nodup
  other : ∀ f ∈ F, f.1 ≠ cn
  ok : ∀ f ∈ F, FieldOK hsz f ∧ 4 ≤ f.2.1
  pw : F.Pairwise Disj
  hsz : 4 ≤ hsz

variable {F : Layout} {hsz : Nat} {cn : String}

theorem encodeRaw_eq (hwf : HdrWF F hsz cn) (r : Raw) :
    ∃ hdr : Bytes, hdr.length = hsz ∧ encodeRaw (F ++ [(cn, 0, 4, 4)]) hsz cn r = hdr ++ r.payload.flatten ∧
      (∀ f ∈ F, slice hdr f.2.1 f.2.2.1 = leBytes f.2.2.2 (valOf r.vals f.1)) ∧
      slice hdr 0 4 = leBytes 4 (crc32 (hdr.drop 4 ++ r.payload.flatten)).toNat := by
  -- `Encode()` selects the checksum field by its name: that is the last entry of the table and no other
  have hF : (F ++ [(cn, 0, 4, 4)]).filter (·.1 != cn) = F := by
    rw [List.filter_append, List.filter_eq_self.mpr fun f hf => bne_iff_ne.mpr (hwf.other f hf)]; simp
  have hC : (F ++ [(cn, 0, 4, 4)]).filter (·.1 == cn) = [(cn, 0, 4, 4)] := by
    rw [List.filter_append, List.filter_eq_nil_iff.mpr fun f hf h => hwf.other f hf (beq_iff_eq.mp h)]; simp
  -- `H`: the header before the checksum is stored; the header fields never touch the payload area, so
  -- `Encode()` is `copy(H[0:4], crc) ++ payload`
  generalize hH : putFields F r.vals (List.replicate hsz 0) = H
  have hokE : ∀ f ∈ F, FieldOK (List.replicate hsz (0 : UInt8)).length f := fun f hf =>
    (List.length_replicate (n := hsz) (a := (0 : UInt8))).symm ▸ (hwf.ok f hf).1
  have hlen : H.length = hsz := by rw [← hH, putFields_length _ _ _ hokE, List.length_replicate]
  have h4 : 4 ≤ H.length := hlen ▸ hwf.hsz
  generalize hc : leBytes 4 (crc32 (H.drop 4 ++ r.payload.flatten)).toNat = c
  have hc4 : c.length = 4 := by rw [← hc, leBytes_length]
  have hcl : 0 + c.length ≤ H.length := by omega
  refine ⟨writeAt H 0 c, by rw [writeAt_length _ _ _ hcl, hlen], ?_, ?_, ?_⟩
  · unfold encodeRaw
    simp only [hF, hC, ← List.replicate_append_replicate]
    rw [putFields_append _ _ _ _ hokE, hH, ← hlen, writeAt_tail _ _ _ (by simp)]
    simp only [putFields, List.foldl_cons, List.foldl_nil, valOf_cons_eq]
    rw [List.drop_append_of_le_length h4, hc, writeAt_append _ _ _ _ hcl]
  · intro f hf
    rw [slice_writeAt_disj _ _ _ _ _ hcl (Or.inr (by rw [hc4]; exact (hwf.ok f hf).2)), ← hH]
    exact slice_putFields_mem _ r.vals _ hokE hwf.pw f hf
  · rw [writeAt_zero, List.drop_left' hc4, hc4, hc]
    exact List.take_left' hc4

/-- the values of a record fit the integer types of the fields, position by position -/
def Fits : Layout → Vals → Prop
  | f :: F, p :: V => p.2 < 256 ^ f.2.2.2 ∧ Fits F V
  | _, _ => True

/-- `W`: all the values, fixed along the recursion; `V`: those of the fields still to read -/
theorem getFields_of_fits {W : Vals} (hW : (W.map (·.1)).Nodup) (hdr : Bytes) : ∀ (F : Layout) (V : Vals),
    (∀ f ∈ F, slice hdr f.2.1 f.2.2.1 = leBytes f.2.2.2 (valOf W f.1)) → Fits F V → V.map (·.1) = F.map (·.1) →
    (∀ p ∈ V, p ∈ W) → getFields F hdr = V
  | [], [], _, _, _, _ => rfl
  | [], _ :: _, _, _, hn, _ => nomatch hn
  | _ :: _, [], _, _, hn, _ => nomatch hn
  | f :: F, p :: V, hs, hfit, hn, hsub => by
    have hp : p.1 = f.1 := (List.cons.inj hn).1
    have hv : valOf W f.1 = p.2 := valOf_of_mem hW (hp ▸ hsub p (List.mem_cons_self ..))
    rw [getFields, List.map_cons, hs f (List.mem_cons_self ..), hv, leVal_leBytes _ _ hfit.1, ← hp]
    exact congrArg (p :: ·) (getFields_of_fits hW hdr F V (fun g hg => hs g (List.mem_cons_of_mem _ hg)) hfit.2
      (List.cons.inj hn).2 fun q hq => hsub q (List.mem_cons_of_mem _ hq))

theorem getFields_encodeRaw (hwf : HdrWF F hsz cn) (r : Raw) (hn : r.vals.map (·.1) = F.map (·.1)) (hfit : Fits F r.vals) :
    ∃ hdr : Bytes, hdr.length = hsz ∧ encodeRaw (F ++ [(cn, 0, 4, 4)]) hsz cn r = hdr ++ r.payload.flatten ∧
      getFields (F ++ [("crc", 0, 4, 4)]) hdr = r.vals ++ [("crc", (crc32 (hdr.drop 4 ++ r.payload.flatten)).toNat)] := by
  obtain ⟨hdr, hlen, henc, hfld, hcrc⟩ := encodeRaw_eq hwf r
  have hnd : (r.vals.map (·.1)).Nodup := hn ▸ (List.nodup_append.mp (List.map_append ▸ hwf.names)).1
  refine ⟨hdr, hlen, henc, ?_⟩
  rw [getFields, List.map_append, List.map_singleton, hcrc, leVal_leBytes _ _ (crc32 _).isLt]
  exact congrArg (· ++ _) (getFields_of_fits hnd hdr F r.vals hfld hfit hn fun _ h => h)

/-- **a record that starts with the CRC-32 of its remainder stops doing so when any one byte is altered**:
inside the remainder by single-byte error detection, inside the stored checksum because the remainder is
still the same -/
theorem crc_guard_one_byte (A B : Bytes) (x y : UInt8) (hxy : x ≠ y)
    (hgood : leVal (slice (A ++ x :: B) 0 4) = (crc32 ((A ++ x :: B).drop 4)).toNat) :
    (crc32 ((A ++ y :: B).drop 4)).toNat ≠ leVal (slice (A ++ y :: B) 0 4) := by
  by_cases hp : 4 ≤ A.length
  · rw [slice_alter A B x y 0 4 (Or.inl hp), hgood, List.drop_append_of_le_length hp, List.drop_append_of_le_length hp]
    exact fun hc => crc32_one_byte (A.drop 4) B x y hxy (BitVec.eq_of_toNat_eq hc).symm
  · obtain ⟨m, hm⟩ : ∃ m, 4 - A.length = m + 1 := ⟨3 - A.length, by omega⟩
    have hd : ∀ z, (A ++ z :: B).drop 4 = B.drop m := fun z => by
      rw [List.drop_append, hm, List.drop_succ_cons, List.drop_eq_nil_of_le (by omega), List.nil_append]
    have ht : ∀ z, slice (A ++ z :: B) 0 4 = A ++ z :: B.take m := fun z => by
      unfold slice
      rw [List.drop_zero, List.take_append, hm, List.take_succ_cons, List.take_of_length_le (by omega)]
    rw [hd y, ← hd x, ← hgood, ht, ht]
    intro hc
    exact hxy (List.cons.inj (List.append_cancel_left (leVal_inj (by simp) hc))).1

end NutsProofs.Codec
