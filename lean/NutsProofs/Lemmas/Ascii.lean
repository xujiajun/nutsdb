/-
  NutsProofs.Lemmas.Ascii — `String.toList` on 7-bit strings, byte by byte.

  The kernel evaluates `String.toList` through the UTF-8 decoding loop (well-founded recursion over a byte
  array), at milliseconds per character; reading the bytes off `toByteArray` is some twenty times faster. The
  pins that select rows of a regenerated table by a condition on `toList` rewrite with `toList_eq_fastToList`
  before they evaluate.
-/
namespace NutsProofs

def fastToList (s : String) : List Char :=
  let bs := s.toByteArray.data.toList
  if bs.all (· < 128) then bs.map fun b => Char.ofNat b.toNat else s.toList

theorem utf8EncodeChar_ascii (c : Char) (h : (String.utf8EncodeChar c).all (· < 128) = true) :
    (String.utf8EncodeChar c).map (fun b => Char.ofNat b.toNat) = [c] := by
  have hc : c.val.toNat ≤ 127 := by
    -- every longer encoding starts with a byte ≥ 0xc0
    apply Decidable.byContradiction; intro hc
    unfold String.utf8EncodeChar at h
    simp only [if_neg hc] at h
    repeat' split at h
    all_goals
      simp only [List.all_cons, Bool.and_eq_true, decide_eq_true_eq, UInt8.lt_iff_toNat_lt, UInt8.toNat_ofNat',
        UInt8.reduceToNat] at h
      omega
  unfold String.utf8EncodeChar
  simp only [if_pos hc, List.map_cons, List.map_nil, UInt8.toNat_ofNat']
  rw [Nat.mod_eq_of_lt (by omega), show c.val.toNat = c.toNat from rfl, Char.ofNat_toNat]

theorem flatMap_utf8EncodeChar_ascii (l : List Char) (h : (l.flatMap String.utf8EncodeChar).all (· < 128) = true) :
    (l.flatMap String.utf8EncodeChar).map (fun b => Char.ofNat b.toNat) = l := by
  induction l with
  | nil => rfl
  | cons c l ih =>
    rw [List.flatMap_cons, List.all_append, Bool.and_eq_true] at h
    rw [List.flatMap_cons, List.map_append, utf8EncodeChar_ascii c h.1, ih h.2]; rfl

theorem toList_eq_fastToList : String.toList = fastToList := by
  funext s
  have e : s.toByteArray.data.toList = s.toList.flatMap String.utf8EncodeChar := by
    rw [← String.utf8Encode_toList, List.utf8Encode, List.toList_data_toByteArray]
  show s.toList = if _ then _ else _
  split
  · next h => rw [e] at h ⊢; exact (flatMap_utf8EncodeChar_ascii _ h).symm
  · rfl

end NutsProofs
