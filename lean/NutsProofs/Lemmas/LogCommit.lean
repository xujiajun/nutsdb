/-
  NutsProofs.Lemmas.LogCommit — what `Commit` does with the log, for records of all four structures: it appends a
  transaction's records, the last one marked, and updates the indexes as it goes. Stated as equations between the
  state after and folds over the records appended (`Lemmas/LogIndex.lean`), so that with `Replay.open_of_log`
  "recovery rebuilds the state" is the comparison of two folds: the invariants `Reopen.LogInv` and
  `ReopenAll.AllInv` follow without another induction.

  In order: the shape of the directory along commits (`Shape`); the records a transaction leaves (`marked`); the
  packing of the data files (`Hints.Packed`, which `Appended` carries along); a state with records appended to its
  log (`Appended`: what the rotation test, one record written, and hence every run of the write loop produce; steps
  compose by `Appended.trans`); the write loop (`writeRec_appended`, `commitLoop_log`, `writeUnmarked_log`, the
  invariant principles of the faulting loops); `buildIdxes` and `Commit` (`finish`, `commit_inv`, `commit_log`,
  `commit_sv`); `Open` on a directory of that shape (`reopen_frame`).

  Namespaces: `Shape`, `marked` and their lemmas are `NutsProofs.Reopen.*`, `Packed` is `NutsProofs.Hints.Packed` (the
  names the layers above are written in); from `Appended` on everything is `NutsProofs.LogCommit.*`.
-/
import NutsProofs.Lemmas.Replay

namespace NutsProofs.Reopen
open Nuts Nuts.Model Nuts.Model.DB
open NutsProofs.Replay (IdxOnly)

/-! ### the shape of the directory along commits -/

/-- the active file is the last one, its id the largest; hints carry its id; the active file was not removed under the
database (`activeUnlinked`, what Merge can leave: D-MERGE-ACTIVE); no record is torn -/
structure Shape (s : State) : Prop where
  split : ∃ pre f, s.files = pre ++ [f] ∧ f.fid = s.activeFid ∧ ∀ g ∈ pre, g.fid < s.activeFid
  hint : s.hintFid = s.activeFid
  linked : s.activeUnlinked = false
  untorn : ∀ g ∈ s.files, g.torn = false

theorem Shape.congr {s s' : State} (h : Shape s) (hf : s'.files = s.files) (ha : s'.activeFid = s.activeFid)
    (hh : s'.hintFid = s.hintFid) (hu : s'.activeUnlinked = s.activeUnlinked) : Shape s' :=
  ⟨by rw [hf, ha]; exact h.split, by rw [hh, ha]; exact h.hint, by rw [hu]; exact h.linked, by rw [hf]; exact h.untorn⟩

theorem Shape.idxOnly {s s' : State} (h : Shape s) (hi : IdxOnly s s') : Shape s' :=
  h.congr hi.files hi.activeFid hi.hintFid hi.activeUnlinked

theorem Shape.files_ne {s : State} (h : Shape s) : s.files ≠ [] := by
  obtain ⟨pre, f, hf, _, _⟩ := h.split; rw [hf]; simp

theorem Shape.maxFid {s : State} (h : Shape s) : (s.files.map (·.fid)).foldl max 0 = s.activeFid := by
  obtain ⟨pre, f, hf, hfid, hpre⟩ := h.split
  rw [hf, ← hfid]; exact maxFid_snoc pre f (by rw [hfid]; exact hpre)

theorem Shape.fid_le {s : State} (h : Shape s) {g : File} (hg : g ∈ s.files) : g.fid ≤ s.activeFid := by
  obtain ⟨pre, f, hf, hfid, hpre⟩ := h.split
  rw [hf] at hg
  rcases List.mem_append.mp hg with hg | hg
  · exact Nat.le_of_lt (hpre g hg)
  · simp at hg; subst hg; omega

theorem Shape.active_mem {s : State} (h : Shape s) : ∃ f ∈ s.files, f.fid = s.activeFid := by
  obtain ⟨pre, f, hf, hfid, _⟩ := h.split
  exact ⟨f, by rw [hf]; simp, hfid⟩

theorem rotate_files (s : State) (h : Shape s) : (rotate s).files = s.files ++ [{ fid := s.activeFid + 1, recs := [] }] :=
  fileEnsure_new s.files _ fun _ hg => Nat.lt_succ_of_le (h.fid_le hg)

theorem preRotate_kv (s : State) (r : Rec) : (preRotate s r).kv = s.kv := by
  unfold preRotate; split <;> rfl

theorem preRotate_opt (s : State) (r : Rec) : (preRotate s r).opt = s.opt := by
  unfold preRotate; split <;> rfl

theorem preRotate_committed (s : State) (r : Rec) : (preRotate s r).committed = s.committed := by
  unfold preRotate; split <;> rfl

theorem appendRec_files (s : State) (r : Rec) (h : Shape s) :
    ∃ pre f, s.files = pre ++ [f] ∧ f.fid = s.activeFid ∧ (∀ g ∈ pre, g.fid < s.activeFid) ∧
      (appendRec s r).files = pre ++ [{ f with recs := f.recs ++ [(s.writeOff, r)] }] := by
  obtain ⟨pre, f, hf, hfid, hpre⟩ := h.split
  refine ⟨pre, f, hf, hfid, hpre, ?_⟩
  simp only [appendRec, h.linked, Bool.false_eq_true, if_false]
  rw [hf, ← hfid]
  exact fileAppend_last pre f s.writeOff r (hfid ▸ hpre)

theorem appendRec_shape (s : State) (r : Rec) (h : Shape s) :
    Shape (appendRec s r) ∧ allRecs (appendRec s r).files = allRecs s.files ++ [(r, s.activeFid, s.writeOff)] := by
  obtain ⟨pre, f, hf, hfid, hpre, hfiles⟩ := appendRec_files s r h
  have hunt := h.untorn
  rw [hf] at hunt
  refine ⟨⟨⟨pre, _, hfiles, hfid, hpre⟩, h.hint, h.linked, ?_⟩, ?_⟩
  · rw [hfiles]; exact forall_mem_snoc.mpr ⟨(forall_mem_snoc.mp hunt).1, (forall_mem_snoc.mp hunt).2⟩
  · rw [hfiles, hf, allRecs_append, allRecs_append]
    simp [allRecs, hfid]

/-! ### what a transaction leaves in the log -/

theorem markLast_ds (r : Rec) (last : Bool) : (markLast r last).ds = r.ds := by
  unfold markLast; split <;> rfl

theorem markLast_txid (r : Rec) (last : Bool) : (markLast r last).txid = r.txid := by
  unfold markLast; split <;> rfl

theorem markLast_key (r : Rec) (last : Bool) : (markLast r last).key = r.key := by
  unfold markLast; split <;> rfl

theorem mem_noteCommitted (s : State) (tid id : Nat) :
    id ∈ (noteCommitted s tid).committed ↔ (id ∈ s.committed ∨ id = tid) := by
  unfold noteCommitted
  simp only
  split
  · rename_i hc
    have : tid ∈ s.committed := by simpa using hc
    constructor
    · exact Or.inl
    · rintro (h | rfl) <;> assumption
  · simp [List.mem_cons, or_comm]

/-- the records a transaction leaves in the log: only the last one carries the commit mark -/
def marked : List Rec → List Rec
  | [] => []
  | r :: rest => markLast r rest.isEmpty :: marked rest

theorem mem_marked {t : List Rec} {x : Rec} (h : x ∈ marked t) : ∃ r ∈ t, ∃ l, x = markLast r l := by
  induction t with
  | nil => cases h
  | cons q rest ih =>
    rcases List.mem_cons.mp h with rfl | h
    · exact ⟨q, by simp, _, rfl⟩
    · obtain ⟨r, hr, l, rfl⟩ := ih h; exact ⟨r, by simp [hr], l, rfl⟩

theorem forall_marked {P : Rec → Prop} (hP : ∀ r l, P r → P (markLast r l)) {extra : List LogRec} {t : List Rec}
    (hex : extra.map (·.1) = marked t) (h : ∀ r ∈ t, P r) : ∀ x ∈ extra, P x.1 := by
  intro x hx
  obtain ⟨r, hr, l, hxr⟩ := mem_marked (hex ▸ List.mem_map_of_mem hx)
  exact hxr ▸ hP r l (h r hr)

theorem marked_committed (t : List Rec) : (marked t).map committedRec = t.map committedRec := by
  induction t with
  | nil => rfl
  | cons r rest ih =>
    simp only [marked, List.map_cons, ih]
    congr 1
    unfold markLast; split <;> rfl

theorem marked_getLast (t : List Rec) (hne : t ≠ []) : ∃ z, (marked t).getLast? = some z ∧ z.status = 1 := by
  induction t with
  | nil => exact absurd rfl hne
  | cons q rest ih =>
    cases rest with
    | nil => exact ⟨markLast q true, rfl, rfl⟩
    | cons q2 rest2 =>
      obtain ⟨z, hz, hzs⟩ := ih (by simp)
      exact ⟨z, by simp only [marked, List.getLast?_cons_cons] at hz ⊢; exact hz, hzs⟩

end NutsProofs.Reopen

namespace NutsProofs.Hints
open Nuts Nuts.Model Nuts.Model.DB

/-! ### the packing of the data files -/

/-- file ids ascend, the records of a file do not overlap, and those of the active file end at or below the write
offset: what makes a hint `(fid, pos)` address exactly one record (`Hints.readAt_of_mem`) -/
structure Packed (s : State) : Prop where
  fids : (s.files.map (·.fid)).Pairwise (· < ·)
  offs : ∀ g ∈ s.files, g.recs.Pairwise (fun a b => a.1 + a.2.size ≤ b.1)
  active : ∀ g ∈ s.files, g.fid = s.activeFid → ∀ x ∈ g.recs, x.1 + x.2.size ≤ s.writeOff

theorem Packed.congr {s s' : State} (h : Packed s) (hf : s'.files = s.files) (ha : s'.activeFid = s.activeFid)
    (hw : s'.writeOff = s.writeOff) : Packed s' :=
  ⟨hf ▸ h.fids, hf ▸ h.offs, by rw [hf, ha, hw]; exact h.active⟩

end NutsProofs.Hints

namespace NutsProofs.LogCommit
open Nuts Nuts.Model Nuts.Model.DB NutsProofs.Reopen NutsProofs.MergeKV NutsProofs.ReopenAll
open NutsProofs.Replay (IdxOnly)

/-! ### a state with records appended to its log -/

/-- `s'` is `s` with the records `E` behind its log, put there the way the write loop of `Commit` does it: the
key/value records among `E` are indexed as written; the new records lie in the file that was active or in newer
ones, and no file appeared but newer ones; the packing of the data files (`Hints.Packed`) survives -/
structure Appended (s : State) (E : List LogRec) (s' : State) : Prop where
  shape : Shape s'
  log : allRecs s'.files = allRecs s.files ++ E
  kv : s'.kv = rawFold s.kv (E.filter isKVrec)
  opt : s'.opt = s.opt
  pos : ∀ y ∈ E, s.activeFid ≤ y.2.1
  active : s.activeFid ≤ s'.activeFid
  fids : ∀ g ∈ s'.files, g.fid ∈ s.files.map (·.fid) ∨ s.activeFid < g.fid
  packed : Hints.Packed s → Hints.Packed s'

theorem Appended.refl {s : State} (h : Shape s) : Appended s [] s :=
  ⟨h, (List.append_nil _).symm, rfl, rfl, nofun, Nat.le_refl _, fun _ hg => Or.inl (List.mem_map_of_mem hg), id⟩

theorem Appended.trans {s s1 s2 : State} {A B : List LogRec} (h1 : Appended s A s1) (h2 : Appended s1 B s2) :
    Appended s (A ++ B) s2 where
  shape := h2.shape
  log := by rw [h2.log, h1.log, List.append_assoc]
  kv := by rw [h2.kv, h1.kv, ← rawFold_append, ← List.filter_append]
  opt := h2.opt.trans h1.opt
  pos := fun y hy => (List.mem_append.mp hy).elim (h1.pos y) fun hy => Nat.le_trans h1.active (h2.pos y hy)
  active := Nat.le_trans h1.active h2.active
  fids := fun g hg => (h2.fids g hg).elim
    (fun hm => by obtain ⟨g0, hg0, e⟩ := List.mem_map.mp hm; exact e ▸ h1.fids g0 hg0)
    fun hlt => Or.inr (Nat.lt_of_le_of_lt h1.active hlt)
  packed := h2.packed ∘ h1.packed

theorem Appended.idxOnly {s s1 s2 : State} {E : List LogRec} (h : Appended s E s1) (hi : IdxOnly s1 s2)
    (hkv : s2.kv = s1.kv) : Appended s E s2 :=
  ⟨h.shape.idxOnly hi, hi.files ▸ h.log, hkv.trans h.kv, hi.opt.trans h.opt, h.pos, hi.activeFid ▸ h.active,
    hi.files ▸ h.fids, fun hp => (h.packed hp).congr hi.files hi.activeFid hi.writeOff⟩

theorem rotate_appended (s : State) (h : Shape s) : Appended s [] (rotate s) := by
  have hfiles := rotate_files s h
  have hlt : ∀ g ∈ s.files, g.fid < s.activeFid + 1 := fun g hg => Nat.lt_succ_of_le (h.fid_le hg)
  refine ⟨⟨⟨s.files, _, hfiles, rfl, hlt⟩, rfl, rfl, ?_⟩, ?_, rfl, rfl, nofun, Nat.le_succ _, fun g hg => ?_, fun hp => ?_⟩
  · rw [hfiles]; exact forall_mem_snoc.mpr ⟨h.untorn, rfl⟩
  · rw [hfiles, allRecs_append]; rfl
  · rcases List.mem_append.mp (hfiles ▸ hg) with hg | hg
    · exact Or.inl (List.mem_map_of_mem hg)
    · exact Or.inr (List.mem_singleton.mp hg ▸ Nat.lt_succ_self _)
  · -- the new file is empty, its id above all others
    refine ⟨?_, ?_, ?_⟩ <;> rw [hfiles]
    · rw [List.map_append, List.map_singleton, pairwise_snoc]
      exact ⟨hp.fids, fun a ha => by obtain ⟨g, hg, rfl⟩ := List.mem_map.mp ha; exact hlt g hg⟩
    · exact forall_mem_snoc.mpr ⟨hp.offs, List.Pairwise.nil⟩
    · exact forall_mem_snoc.mpr ⟨fun g hg hgf => absurd hgf (Nat.ne_of_lt (hlt g hg)), fun _ x hx => nomatch hx⟩

theorem preRotate_appended (s : State) (r : Rec) (h : Shape s) : Appended s [] (preRotate s r) := by
  unfold preRotate
  split
  · exact rotate_appended s h
  · exact .refl h

/-! ### the write loop -/

theorem sv_preRotate (s : State) (r : Rec) : sv (preRotate s r) = sv s := by
  unfold preRotate; split <;> rfl

theorem writeRec_eq (s : State) (r : Rec) (last : Bool) :
    writeRec s r last =
      { appendRec (preRotate s r) (markLast r last) with
        committed := if last then (noteCommitted (preRotate s r) r.txid).committed else (preRotate s r).committed
        kv := if r.ds = dsKV then kvPut (preRotate s r).kv (markLast r last) (preRotate s r).hintFid (preRotate s r).writeOff
              else (preRotate s r).kv } := by
  unfold writeRec
  simp only [markLast_ds, markLast_txid, beq_iff_eq]
  -- as variables, so that `rfl` compares record updates and nothing below them
  generalize preRotate s r = s1
  generalize markLast r last = r1
  split <;> split <;> rfl

theorem writeRec_appended (s : State) (r : Rec) (last : Bool) (h : Shape s) :
    Appended s [(markLast r last, (preRotate s r).activeFid, (preRotate s r).writeOff)] (writeRec s r last) := by
  have h0 := preRotate_appended s r h
  have h1 := h0.shape
  have hds := markLast_ds r last
  refine h0.trans ?_
  rw [writeRec_eq]
  generalize preRotate s r = s1 at h1 ⊢
  generalize markLast r last = r1 at hds ⊢
  obtain ⟨h2, hlog⟩ := appendRec_shape s1 r1 h1
  obtain ⟨pre, f, hf, hfid, hpre, hfiles⟩ := appendRec_files s1 r1 h1
  refine ⟨h2.congr rfl rfl rfl rfl, hlog, ?_, rfl, ?_, Nat.le_refl _, fun g hg => Or.inl ?_, fun hp => ?_⟩
  · simp only [List.filter_cons, isKVrec, hds, beq_iff_eq, h1.hint]
    split <;> rfl
  · simp
  · have hg' : g ∈ (appendRec s1 r1).files := hg
    rw [hfiles] at hg'
    rw [hf]
    simp only [List.mem_append, List.mem_singleton, List.map_append, List.map_cons, List.map_nil] at hg' ⊢
    exact hg'.imp (fun hp => List.mem_map_of_mem hp) fun e => by rw [e]
  · -- the record starts where the active file's records end and ends at the new write offset
    have hact := hp.active f (hf ▸ List.mem_append_right _ (List.mem_singleton_self f)) hfid
    have hfids := hp.fids
    have hoffs := hp.offs
    rw [hf] at hfids hoffs
    have hpk : Hints.Packed (appendRec s1 r1) := by
      refine ⟨?_, ?_, ?_⟩ <;> rw [hfiles]
      · simpa using hfids
      · exact forall_mem_snoc.mpr ⟨(forall_mem_snoc.mp hoffs).1, pairwise_snoc.mpr ⟨(forall_mem_snoc.mp hoffs).2, hact⟩⟩
      · refine forall_mem_snoc.mpr ⟨fun g hg hgf => absurd hgf (Nat.ne_of_lt (hpre g hg)), fun _ => ?_⟩
        exact forall_mem_snoc.mpr ⟨fun x hx => Nat.le_trans (hact x hx) (Nat.le_add_right ..), Nat.le_refl _⟩
    exact hpk.congr rfl rfl rfl

theorem writeRec_opt (s : State) (r : Rec) (last : Bool) : (writeRec s r last).opt = s.opt := by
  rw [writeRec_eq, ← preRotate_opt s r]
  generalize preRotate s r = s1
  rfl

theorem writeRec_sv (s : State) (r : Rec) (last : Bool) : sv (writeRec s r last) = sv s := by
  rw [writeRec_eq, ← sv_preRotate s r]
  generalize preRotate s r = s1
  rfl

theorem writeRec_committed (s : State) (r : Rec) (last : Bool) :
    (writeRec s r last).committed = if last then (noteCommitted s r.txid).committed else s.committed := by
  rw [writeRec_eq]; simp only [noteCommitted, preRotate_committed]

theorem commitLoop_log (recs : List Rec) (s : State) (h : Shape s) (hr : ∀ r ∈ recs, ¬ r.size > s.opt.seg) :
    (commitLoop s recs).2 = true ∧
    (∃ E : List LogRec, E.map (·.1) = marked recs ∧ Appended s E (commitLoop s recs).1) ∧
    ∀ id, id ∈ (commitLoop s recs).1.committed ↔ (id ∈ s.committed ∨ ∃ r, recs.getLast? = some r ∧ r.txid = id) := by
  induction recs generalizing s with
  | nil => exact ⟨rfl, ⟨[], rfl, .refl h⟩, by simp [commitLoop]⟩
  | cons r rest ih =>
    have h1 := writeRec_appended s r rest.isEmpty h
    obtain ⟨hfine, ⟨E, hex, hE⟩, hcom⟩ :=
      ih (writeRec s r rest.isEmpty) h1.shape (fun q hq => by rw [h1.opt]; exact hr q (by simp [hq]))
    simp only [commitLoop, hr r (by simp), if_false]
    refine ⟨hfine, ⟨_ :: E, by simp [marked, hex], h1.trans hE⟩, fun id => ?_⟩
    rw [hcom id, writeRec_committed]
    cases rest with
    | nil => simp [mem_noteCommitted, eq_comm]
    | cons q qs => simp

theorem getLast_txid (recs : List Rec) (tid id : Nat) (h : ∀ r ∈ recs, r.txid = tid) :
    (∃ r, recs.getLast? = some r ∧ r.txid = id) ↔ (recs ≠ [] ∧ id = tid) := by
  constructor
  · rintro ⟨r, hr, rfl⟩
    exact ⟨fun hn => by simp [hn] at hr, h r (List.mem_of_getLast? hr)⟩
  · rintro ⟨hne, rfl⟩
    cases hl : recs.getLast? with
    | none => exact absurd (List.getLast?_eq_none_iff.mp hl) hne
    | some r => exact ⟨r, rfl, h r (List.mem_of_getLast? hl)⟩

/-- records written one after another, none marked: what is in the files when the process dies inside `Commit`,
or when `Commit` gives up -/
theorem writeUnmarked_log (recs : List Rec) (s : State) (h : Shape s) :
    ∃ E : List LogRec, E.map (·.1) = recs ∧ Appended s E (recs.foldl (fun s r => writeRec s r false) s) := by
  induction recs generalizing s with
  | nil => exact ⟨[], rfl, .refl h⟩
  | cons r rest ih =>
    have h1 := writeRec_appended s r false h
    obtain ⟨E, hex, hE⟩ := ih (writeRec s r false) h1.shape
    exact ⟨_ :: E, by simp [hex, markLast], h1.trans hE⟩

/-- whatever the write loop does — complete, or stopped by an oversized record or a failing write — it does by
`writeRec` on the transaction's records and `preRotate` -/
theorem commitLoopF_inv (P : State → Prop) (recs : List Rec)
    (hw : ∀ s r l, r ∈ recs → P s → P (writeRec s r l)) (hp : ∀ s r, P s → P (preRotate s r))
    (s : State) (fa : Option Nat) (h : P s) : P (commitLoopF s recs fa).1 := by
  induction recs generalizing s fa with
  | nil => exact h
  | cons r rest ih =>
    simp only [commitLoopF]
    split
    · exact h
    · split
      · exact hp s r h
      · exact ih (fun s q l hq => hw s q l (by simp [hq])) _ _ (hw s r _ (by simp) h)

/-- a failing `Sync` leaves, besides, the record it could not sync in the files (`hf`) -/
theorem commitLoopS_inv (P : State → Prop) (recs : List Rec)
    (hw : ∀ s r l, r ∈ recs → P s → P (writeRec s r l)) (hp : ∀ s r, P s → P (preRotate s r))
    (hf : ∀ s fs, P s → P { s with files := fs }) (s : State) (i : Nat) (h : P s) : P (commitLoopS s recs i).1 := by
  induction recs generalizing s i with
  | nil => exact h
  | cons r rest ih =>
    simp only [commitLoopS]
    split
    · exact h
    · split
      · exact hf _ _ (hp s r h)
      · exact ih (fun s q l hq => hw s q l (by simp [hq])) _ _ (hw s r _ (by simp) h)

theorem commitLoopF_none (recs : List Rec) (s : State) : commitLoopF s recs none = commitLoop s recs := by
  induction recs generalizing s with
  | nil => rfl
  | cons r rest ih => simp only [commitLoopF, commitLoop]; split <;> simp [ih]

theorem commitLoop_inv (P : State → Prop) (recs : List Rec)
    (hw : ∀ s r l, r ∈ recs → P s → P (writeRec s r l)) (hp : ∀ s r, P s → P (preRotate s r))
    (s : State) (h : P s) : P (commitLoop s recs).1 :=
  commitLoopF_none recs s ▸ commitLoopF_inv P recs hw hp s none h

theorem commitLoop_sv (recs : List Rec) (s : State) : sv (commitLoop s recs).1 = sv s :=
  commitLoop_inv (fun s' => sv s' = sv s) recs (fun s' r l _ h => (writeRec_sv s' r l).trans h)
    (fun s' r h => (sv_preRotate s' r).trans h) s rfl

/-! ### `buildIdxes` and `Commit` -/

theorem buildIdxes_frame (recs : List Rec) (s : State) :
    IdxOnly s (buildIdxes s recs).1 ∧ (buildIdxes s recs).1.kv = s.kv := by
  induction recs generalizing s with
  | nil => exact ⟨.refl s, rfl⟩
  | cons r rest ih =>
    have h1 := Replay.applyOther_idxOnly s r true
    have h2 : (applyOther s r true).1.kv = s.kv := by rw [(applyOther_eq s r true).1]
    simp only [buildIdxes]
    split
    · exact ⟨h1, h2⟩
    · exact ⟨h1.trans (ih _).1, (ih _).2.trans h2⟩

theorem buildIdxes_ok (recs : List Rec) (s : State) (h : (buildIdxes s recs).2 = false) :
    sv (buildIdxes s recs).1 = foldSV (sv s) recs true ∧ NoPanic (sv s) recs true := by
  induction recs generalizing s with
  | nil => exact ⟨rfl, noPanic_nil _ _⟩
  | cons r rest ih =>
    have ho := (applyOther_eq s r true).2
    have hsv := applyOther_sv s r true
    simp only [buildIdxes] at h ⊢
    split at h
    · cases h
    · rename_i hp
      obtain ⟨h1, h2⟩ := ih _ h
      rw [if_neg hp]
      refine ⟨by rw [h1, hsv]; rfl, (noPanic_cons ..).mpr ⟨fun hpan => hp ?_, hsv ▸ h2⟩⟩
      rw [ho, hpan]; rfl

/-- what `Commit` does with the result of its write loop: give up, or apply the structure records -/
def finish (p : State × Bool) (recs : List Rec) : State × Outcome Unit :=
  if !p.2 then (p.1, .err)
  else if (buildIdxes p.1 recs).2 then ((buildIdxes p.1 recs).1, .panic) else ((buildIdxes p.1 recs).1, .ok ())

theorem commit_finish (s : State) (recs : List Rec) :
    commit s recs = if recs.isEmpty then (s, .ok ()) else finish (commitLoop s recs) recs := rfl

theorem commitF_finish (s : State) (recs : List Rec) (fa : Option Nat) :
    commitF s recs fa = if recs.isEmpty then (s, .ok ()) else finish (commitLoopF s recs fa) recs := rfl

theorem commitS_finish (s : State) (recs : List Rec) (i : Nat) :
    commitS s recs i = if recs.isEmpty then (s, .ok ()) else finish (commitLoopS s recs i) recs := rfl

theorem finish_fst (p : State × Bool) (recs : List Rec) :
    (finish p recs).1 = if p.2 then (buildIdxes p.1 recs).1 else p.1 := by
  unfold finish
  cases p.2
  · rfl
  · simp only [Bool.not_true, Bool.false_eq_true, if_false, if_true]; split <;> rfl

/-- whatever a commit does — complete, stopped inside the write loop, or panicking in `buildIdxes` — it does by
`writeRec`, `preRotate` and `buildIdxes` -/
theorem commit_inv (P : State → Prop) (recs : List Rec)
    (hw : ∀ s r l, r ∈ recs → P s → P (writeRec s r l)) (hp : ∀ s r, P s → P (preRotate s r))
    (hb : ∀ s, P s → P (buildIdxes s recs).1) (s : State) (h : P s) : P (commit s recs).1 := by
  have h1 := commitLoop_inv P recs hw hp s h
  rw [commit_finish]
  split
  · exact h
  · rw [finish_fst]
    split
    · exact hb _ h1
    · exact h1

theorem finish_false (p : State × Bool) (recs : List Rec) (h : p.2 = false) : finish p recs = (p.1, .err) := by
  simp [finish, h]

theorem finish_err (p : State × Bool) (recs : List Rec) (h : (finish p recs).2 = .err) :
    p.2 = false ∧ (finish p recs).1 = p.1 := by
  unfold finish at h ⊢
  cases hp : p.2
  · simp
  · rw [hp] at h; simp only [Bool.not_true, Bool.false_eq_true, if_false] at h; split at h <;> cases h

theorem commit_fine (s : State) (t : List Rec) (hne : t ≠ []) (hfine : (commitLoop s t).2 = true) :
    commit s t = ((buildIdxes (commitLoop s t).1 t).1,
      if (buildIdxes (commitLoop s t).1 t).2 then .panic else .ok ()) := by
  have hemp : t.isEmpty = false := by cases t with | nil => exact absurd rfl hne | cons _ _ => rfl
  simp only [commit_finish, finish, hemp, hfine, Bool.false_eq_true, if_false, Bool.not_true]
  split <;> rfl

theorem applyOther_kv_id (s : State) (r : Rec) (c : Bool) (h : r.ds = dsKV) : applyOther s r c = (s, .ok ()) := by
  unfold applyOther; rw [h]; rfl

theorem buildIdxes_kv_id (recs : List Rec) (s : State) (h : ∀ r ∈ recs, r.ds = dsKV) : buildIdxes s recs = (s, false) := by
  induction recs with
  | nil => rfl
  | cons r rest ih =>
    simp only [buildIdxes, applyOther_kv_id s r true (h r (by simp)), Outcome.isPanic]
    exact ih (fun q hq => h q (by simp [hq]))

theorem commit_kvOnly (s : State) (t : List Rec) (hne : t ≠ []) (hfine : (commitLoop s t).2 = true)
    (hds : ∀ r ∈ t, r.ds = dsKV) : commit s t = ((commitLoop s t).1, .ok ()) := by
  rw [commit_fine s t hne hfine, buildIdxes_kv_id t _ hds]; rfl

theorem committedIds_commit (L extra : List LogRec) (t : List Rec) (tid : Nat) (hne : t ≠ [])
    (hex : extra.map (·.1) = marked t) (htid : ∀ r ∈ t, r.txid = tid) (hall : ∀ x ∈ L, x.1.txid ∈ committedIds L) :
    (∀ x ∈ L ++ extra, x.1.txid ∈ committedIds (L ++ extra)) ∧
    (∀ id, id ∈ committedIds (L ++ extra) ↔ (id ∈ committedIds L ∨ id = tid)) := by
  have hE : ∀ x ∈ extra, x.1.txid = tid := forall_marked (fun r l h => (markLast_txid r l).trans h) hex htid
  have hmark : tid ∈ committedIds extra := by
    obtain ⟨r, hrl, hs⟩ := marked_getLast t hne
    have hrm := List.mem_of_getLast? hrl
    obtain ⟨x, hx, rfl⟩ := List.mem_map.mp (hex ▸ hrm)
    exact (Replay.mem_committedIds ..).mpr ⟨x, hx, hs, hE x hx⟩
  have hids : ∀ id, id ∈ committedIds extra ↔ id = tid := fun id =>
    ⟨fun h => by obtain ⟨x, hx, _, rfl⟩ := (Replay.mem_committedIds ..).mp h; exact hE x hx, fun h => h ▸ hmark⟩
  refine ⟨fun x hx => ?_, fun id => by rw [Replay.committedIds_append, List.mem_append, hids]⟩
  rw [Replay.committedIds_append, List.mem_append, hids]
  exact (List.mem_append.mp hx).imp (hall x) (hE x)

theorem commit_log (s : State) (t : List Rec) (tid : Nat) (h : Shape s) (hne : t ≠ [])
    (hr : ∀ r ∈ t, ¬ r.size > s.opt.seg ∧ r.txid = tid) :
    (commit s t).2 ≠ .err ∧ (∃ E : List LogRec, E.map (·.1) = marked t ∧ Appended s E (commit s t).1) ∧
    ∀ id, id ∈ (commit s t).1.committed ↔ (id ∈ s.committed ∨ id = tid) := by
  obtain ⟨hfine, ⟨E, hex, hE⟩, hcom⟩ := commitLoop_log t s h fun r hr' => (hr r hr').1
  obtain ⟨hb, hbkv⟩ := buildIdxes_frame t (commitLoop s t).1
  rw [commit_fine s t hne hfine]
  refine ⟨by split <;> nofun, ⟨E, hex, hE.idxOnly hb hbkv⟩, fun id => ?_⟩
  rw [hb.committed, hcom id, getLast_txid t tid id fun r hr' => (hr r hr').2, and_iff_right hne]

theorem commit_sv (s : State) (t : List Rec) (hok : (commit s t).2 = .ok ()) :
    sv (commit s t).1 = foldSV (sv s) t true ∧ NoPanic (sv s) t true := by
  rw [commit_finish] at hok ⊢
  split at hok
  · rename_i he; rw [if_pos he, List.isEmpty_iff.mp he]; exact ⟨rfl, noPanic_nil _ _⟩
  · rw [if_neg ‹_›]
    unfold finish at hok ⊢
    split at hok
    · cases hok
    · rw [if_neg ‹_›]
      split at hok
      · cases hok
      · rw [if_neg ‹_›, ← commitLoop_sv t s]
        exact buildIdxes_ok t _ (Bool.eq_false_iff.mpr ‹_›)

theorem shape_init (opt : Opts) : Shape (openDB opt []).1 := by
  rw [Replay.openDB_nil]
  exact ⟨⟨[], _, rfl, rfl, nofun⟩, rfl, rfl, by simp⟩

theorem reopen_frame (s : State) (h : Shape s) (opt : Opts) :
    Shape (openDB opt s.files).1 ∧ (openDB opt s.files).1.files = s.files ∧
    (openDB opt s.files).1.activeFid = s.activeFid ∧
    (openDB opt s.files).1.writeOff = fileEnd ((fileGet? s.files s.activeFid).getD { fid := s.activeFid, recs := [] }) := by
  obtain ⟨ids, hi⟩ := Replay.openDB_base opt s.files
  have hf : (Replay.openInit opt s.files ids).files = s.files := fileEnsure_max _ h.files_ne
  have ha : (Replay.openInit opt s.files ids).activeFid = s.activeFid := h.maxFid
  refine ⟨h.congr (hi.files.trans hf) (hi.activeFid.trans ha) (hi.hintFid.trans (ha.trans h.hint.symm))
    (hi.activeUnlinked.trans h.linked.symm), hi.files.trans hf, hi.activeFid.trans ha, hi.writeOff.trans ?_⟩
  show fileEnd ((fileGet? (Replay.openInit opt s.files ids).files _).getD _) = _
  rw [hf, h.maxFid]

end NutsProofs.LogCommit
