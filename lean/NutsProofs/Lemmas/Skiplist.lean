/-
  NutsProofs.Lemmas.Skiplist — the search loops of the skiplist (Nuts.Model.Skiplist) for every level layout.

  `SpansOK`: every stored span of every tower is the distance to the next tower that has that level (to the
  end of the list when there is none). Under it, one search loop (`walk`) that is steered by a predicate true
  exactly below a cut position `c` ends on the last tower below `c` that has the level, with its rank equal to
  its position. That tower is a function of the heights, `lastAt all i c`, so the loop is an equation
  (`walk_lastAt`; `walk_spec` spells its consequences out), and every descent of sortedset.go (`descend` here;
  `findRankLoop`, `rankDescend`, `plainDescend` in SkiplistRank) is that equation level by level.
-/
import Nuts.Model.Skiplist
import NutsProofs.Lemmas.ZSetOrder
namespace NutsProofs.SkipL
open Nuts Nuts.Model Nuts.Model.Skiplist
open Nuts.Model.ZSetA (Node nlt)

theorem nextAt_none {i : Nat} {l : List Tower} : nextAt i l = none ↔ ∀ t ∈ l, t.spans.length ≤ i := by
  induction l with
  | nil => simp [nextAt]
  | cons t ts ih => by_cases h : i < t.spans.length <;> simp [nextAt, h, ih] <;> omega

theorem nextAt_cons_none {i : Nat} {t : Tower} {rest : List Tower} :
    nextAt i (t :: rest) = none ↔ ¬ i < t.spans.length ∧ nextAt i rest = none := by
  simp only [nextAt]
  split <;> simp [*]

theorem heightOf_drop (all : List Tower) (n j : Nat) : heightOf (all.drop n) j = heightOf all (n + j) := by
  rw [heightOf, heightOf, List.getElem?_drop]

theorem nextAt_some {i : Nat} : ∀ {l : List Tower} {d : Nat}, nextAt i l = some d →
    ∃ e, d = e + 1 ∧ i < heightOf l e ∧ ∀ j, j < e → heightOf l j ≤ i
  | [], _, h => by cases h
  | t :: l, d, h => by
    rw [nextAt] at h
    split at h
    · cases h
      exact ⟨0, rfl, ‹i < t.spans.length›, fun j hj => absurd hj (Nat.not_lt_zero _)⟩
    · obtain ⟨d', hd', rfl⟩ := Option.map_eq_some_iff.mp h
      obtain ⟨e, rfl, h3, h4⟩ := nextAt_some hd'
      exact ⟨e + 1, rfl, h3, fun j hj => by cases j with
        | zero => exact Nat.le_of_not_lt ‹_›
        | succ j => exact h4 j (Nat.lt_of_succ_lt_succ hj)⟩

/-! ### spans are distances -/

/-- distance to the next tower with level `i`; to the end of the list when there is none -/
def gap (i : Nat) (rest : List Tower) : Nat := (nextAt i rest).getD rest.length

/-- every stored span below `level` is the gap -/
def SpansOK (level : Nat) : List Tower → Prop
  | [] => True
  | t :: rest => (∀ i, i < t.spans.length → i < level → t.spans.getD i 0 = (gap i rest : Int)) ∧ SpansOK level rest

theorem spansOK_iff {lv : Nat} {all : List Tower} :
    SpansOK lv all ↔ ∀ p i, i < heightOf all p → i < lv → spanOf all p i = (gap i (all.drop (p + 1)) : Int) := by
  induction all with
  | nil => exact ⟨fun _ p i hi => absurd hi (Nat.not_lt_zero _), fun _ => trivial⟩
  | cons t rest ih =>
    rw [SpansOK, ih]
    exact ⟨fun ⟨h1, h2⟩ p i => by cases p with
        | zero => exact h1 i
        | succ p => exact h2 p i,
      fun h => ⟨fun i => h 0 i, fun p i => h (p + 1) i⟩⟩

theorem heightOf_eq {all : List Tower} {p : Nat} {t : Tower} (hp : all[p]? = some t) : heightOf all p = t.spans.length := by
  simp [heightOf, hp]

theorem heightOf_pos_lt {all : List Tower} {p i : Nat} (h : i < heightOf all p) : p < all.length := by
  unfold heightOf at h
  cases hp : all[p]? with
  | none => simp [hp] at h
  | some t => exact (List.getElem?_eq_some_iff.mp hp).1

theorem fwd_none {all : List Tower} {x i : Nat} (h : fwd all x i = none) :
    ∀ q, x < q → q < all.length → heightOf all q ≤ i := by
  intro q hq hql
  unfold fwd at h
  rw [Option.map_eq_none_iff, nextAt_none] at h
  have hg : all[q]? = some all[q] := List.getElem?_eq_getElem hql
  rw [heightOf_eq hg]
  apply h
  rw [List.mem_iff_getElem?]
  refine ⟨q - (x + 1), ?_⟩
  rw [List.getElem?_drop]
  have : x + 1 + (q - (x + 1)) = q := by omega
  rw [this]; exact hg

theorem fwd_eq_some_iff {all : List Tower} {x i q : Nat} :
    fwd all x i = some q ↔
      x < q ∧ q < all.length ∧ i < heightOf all q ∧ ∀ q', x < q' → q' < q → heightOf all q' ≤ i := by
  have mp : ∀ {q}, fwd all x i = some q →
      x < q ∧ q < all.length ∧ i < heightOf all q ∧ ∀ q', x < q' → q' < q → heightOf all q' ≤ i := fun h => by
    obtain ⟨d, hd, rfl⟩ := Option.map_eq_some_iff.mp h
    obtain ⟨e, rfl, h3, h4⟩ := nextAt_some hd
    rw [heightOf_drop, show x + 1 + e = e + 1 + x by omega] at h3
    refine ⟨by omega, heightOf_pos_lt h3, h3, fun q' hq1 hq2 => ?_⟩
    have := h4 (q' - (x + 1)) (by omega)
    rwa [heightOf_drop, show x + 1 + (q' - (x + 1)) = q' by omega] at this
  refine ⟨mp, fun ⟨a, b, c, d⟩ => ?_⟩
  -- the first tower of the level behind `x` is unique
  cases hf : fwd all x i with
  | none => exact absurd c (Nat.not_lt_of_le (fwd_none hf q a b))
  | some q' =>
    obtain ⟨a', _, c', d'⟩ := mp hf
    rcases Nat.lt_trichotomy q' q with hlt | heq | hgt
    · exact absurd c' (Nat.not_lt_of_le (d q' a' hlt))
    · rw [heq]
    · exact absurd c (Nat.not_lt_of_le (d' q a hgt))

/-! ### the search loop and the descent: `update[i]` and `rank[i]` -/

/-- the loop is steered by a condition that holds exactly for the positions below the cut `c` -/
def Steers (all : List Tower) (cont : Int → Node → Bool) (c : Nat) : Prop :=
  ∀ q, 1 ≤ q → q < all.length → (cont (q : Int) (nodeOf all q) = true ↔ q < c)

/-- what the descent yields at level `j`: the last tower below the cut that has level `j`, with its position as rank -/
def IsUpd (all : List Tower) (c j : Nat) (u : Nat) (r : Int) : Prop :=
  r = (u : Int) ∧ u < c ∧ j < heightOf all u ∧ ∀ q, u < q → q < c → heightOf all q ≤ j

theorem isUpd_unique {all : List Tower} {c j u u' : Nat} {r r' : Int} (h : IsUpd all c j u r) (h' : IsUpd all c j u' r') :
    u = u' ∧ r = r' := by
  obtain ⟨e, a, b, d⟩ := h
  obtain ⟨e', a', b', d'⟩ := h'
  have : u = u' := by
    rcases Nat.lt_trichotomy u u' with hlt | heq | hgt
    · have := d u' hlt a'; omega
    · exact heq
    · have := d' u hgt a; omega
  subst this
  exact ⟨rfl, by rw [e, e']⟩

theorem getD_map_range {α} (f : Nat → α) (d : α) {i n : Nat} (h : i < n) : ((List.range n).map f).getD i d = f i := by
  simp [List.getD_eq_getElem?_getD, h]

/-- `update[i]` as a function: the last position below `c` whose tower has level `i` (0 when there is none) -/
def lastAt (all : List Tower) (i : Nat) : Nat → Nat
  | 0 => 0
  | c + 1 => if i < heightOf all c then c else lastAt all i c

theorem lastAt_lt (all : List Tower) (i : Nat) : ∀ {c}, 1 ≤ c → lastAt all i c < c
  | c + 1, _ => by
    rw [lastAt]
    split
    · exact Nat.lt_succ_self c
    · cases c with
      | zero => exact Nat.zero_lt_one
      | succ c => exact Nat.lt_succ_of_lt (lastAt_lt all i (Nat.succ_pos c))

theorem lastAt_isUpd {all : List Tower} {i x : Nat} (hh : i < heightOf all x) :
    ∀ {c}, x < c → IsUpd all c i (lastAt all i c) (lastAt all i c) ∧ x ≤ lastAt all i c := by
  intro c
  induction c with
  | zero => intro h; exact absurd h (Nat.not_lt_zero _)
  | succ c ih =>
    intro hx
    rw [lastAt]
    by_cases hc : i < heightOf all c
    · rw [if_pos hc]
      exact ⟨⟨rfl, Nat.lt_succ_self c, hc, fun q h1 h2 =>
        absurd (Nat.lt_of_lt_of_le h1 (Nat.le_of_lt_succ h2)) (Nat.lt_irrefl _)⟩, Nat.le_of_lt_succ hx⟩
    · rw [if_neg hc]
      have hxc : x < c := Nat.lt_of_le_of_ne (Nat.le_of_lt_succ hx) fun e => hc (e ▸ hh)
      obtain ⟨⟨e, a, b, d⟩, le⟩ := ih hxc
      exact ⟨⟨e, Nat.lt_succ_of_lt a, b, fun q h1 h2 =>
        (Nat.lt_or_eq_of_le (Nat.le_of_lt_succ h2)).elim (d q h1) fun e => e ▸ Nat.le_of_not_lt hc⟩, le⟩

theorem IsUpd.eq_lastAt {all : List Tower} {c i u : Nat} {r : Int} (h : IsUpd all c i u r) :
    u = lastAt all i c ∧ r = (lastAt all i c : Int) :=
  isUpd_unique h (lastAt_isUpd h.2.2.1 h.2.1).1

theorem IsUpd.eq_iff_clear {all : List Tower} {c i u p : Nat} {r : Int} (h : IsUpd all c i u r) (hp : p < c)
    (hh : i < heightOf all p) : p = u ↔ ∀ q, p < q → q < c → heightOf all q ≤ i :=
  ⟨fun e => e ▸ h.2.2.2, fun hc => (isUpd_unique (r := (p : Int)) ⟨rfl, hp, hh, hc⟩ h).1⟩

/-- one search loop, as an equation: it ends on `lastAt`, with its position as rank -/
theorem walk_lastAt {all : List Tower} {level i c : Nat} {cont : Int → Node → Bool}
    (hok : SpansOK level all) (hi : i < level) (hst : Steers all cont c) (hcl : c ≤ all.length) :
    ∀ fuel x, x < c → i < heightOf all x → c ≤ fuel + x →
      walk all i cont fuel x (x : Int) = (lastAt all i c, (lastAt all i c : Int)) := by
  intro fuel
  induction fuel with
  | zero => intro x hx _ hf; exact absurd (Nat.lt_of_lt_of_le hx (Nat.zero_add x ▸ hf)) (Nat.lt_irrefl _)
  | succ fuel ih =>
    intro x hx hh hf
    have hstop : (∀ q, x < q → q < c → heightOf all q ≤ i) →
        (x, (x : Int)) = (lastAt all i c, (lastAt all i c : Int)) := fun hclear => by
      obtain ⟨e1, e2⟩ := IsUpd.eq_lastAt (r := (x : Int)) ⟨rfl, hx, hh, hclear⟩
      exact Prod.ext e1 e2
    rw [walk]
    cases hfw : fwd all x i with
    | none => exact hstop fun q h1 h2 => fwd_none hfw q h1 (Nat.lt_of_lt_of_le h2 hcl)
    | some q =>
      obtain ⟨hxq, hql, hqh, hbetween⟩ := fwd_eq_some_iff.mp hfw
      have hq1 : 1 ≤ q := Nat.lt_of_le_of_lt (Nat.zero_le x) hxq
      -- the span of `x` is the distance to `q`: the rank stays the position
      have hr : (x : Int) + spanOf all x i = (q : Int) := by
        obtain ⟨d, hd, hdq⟩ := Option.map_eq_some_iff.mp hfw
        rw [spansOK_iff.mp hok x i hh hi, gap, hd, Option.getD_some, ← Int.natCast_add, Nat.add_comm, hdq]
      simp only [hr]
      by_cases hqc : q < c
      · rw [if_pos ((hst q hq1 hql).mpr hqc)]
        exact ih q hqc hqh (by omega)
      · rw [if_neg fun e => hqc ((hst q hq1 hql).mp e)]
        exact hstop fun q' h1 h2 => hbetween q' h1 (Nat.lt_of_lt_of_le h2 (Nat.le_of_not_lt hqc))

theorem walk_spec {all : List Tower} {level i c : Nat} {cont : Int → Node → Bool}
    (hok : SpansOK level all) (hi : i < level) (hst : Steers all cont c) (hcl : c ≤ all.length) :
    ∀ fuel x, x < c → i < heightOf all x → c ≤ fuel + x →
      (walk all i cont fuel x (x : Int)).2 = ((walk all i cont fuel x (x : Int)).1 : Int) ∧
      x ≤ (walk all i cont fuel x (x : Int)).1 ∧ (walk all i cont fuel x (x : Int)).1 < c ∧
      i < heightOf all (walk all i cont fuel x (x : Int)).1 ∧
      ∀ q, (walk all i cont fuel x (x : Int)).1 < q → q < c → heightOf all q ≤ i := by
  intro fuel x hx hh hf
  rw [walk_lastAt hok hi hst hcl fuel x hx hh hf]
  obtain ⟨⟨_, a, b, d⟩, le⟩ := lastAt_isUpd hh hx
  exact ⟨rfl, le, a, b, d⟩

/-- the loop as the model calls it, with the length of the list as fuel -/
theorem walk_eq {all : List Tower} {level i c : Nat} {cont : Int → Node → Bool}
    (hok : SpansOK level all) (hi : i < level) (hst : Steers all cont c) (hcl : c ≤ all.length)
    {x : Nat} (hx : x < c) (hh : i < heightOf all x) :
    walk all i cont all.length x (x : Int) = (lastAt all i c, (lastAt all i c : Int)) :=
  walk_lastAt hok hi hst hcl all.length x hx hh (Nat.le_trans hcl (Nat.le_add_right _ _))

theorem descend_eq {all : List Tower} {level c : Nat} {cont : Int → Node → Bool}
    (hok : SpansOK level all) (hst : Steers all cont c) (hcl : c ≤ all.length) :
    ∀ i, i ≤ level → ∀ x, x < c → i ≤ heightOf all x →
      descend all cont i x (x : Int) = (List.range i).map fun j => (lastAt all j c, (lastAt all j c : Int)) := by
  intro i
  induction i with
  | zero => intro _ x _ _; rfl
  | succ i ih =>
    intro hil x hx hh
    obtain ⟨⟨_, a, b, _⟩, _⟩ := lastAt_isUpd (show i < heightOf all x by omega) hx
    simp only [descend]
    rw [walk_eq hok (by omega) hst hcl hx (by omega)]
    simp only
    rw [ih (by omega) _ a (by omega), List.range_succ, List.map_append]
    rfl

theorem descend_spec {all : List Tower} {level c : Nat} {cont : Int → Node → Bool}
    (hok : SpansOK level all) (hst : Steers all cont c) (hcl : c ≤ all.length) :
    ∀ i, i ≤ level → ∀ x, x < c → i ≤ heightOf all x →
      (descend all cont i x (x : Int)).length = i ∧
      ∀ j, j < i → IsUpd all c j ((descend all cont i x (x : Int)).getD j (0, 0)).1 ((descend all cont i x (x : Int)).getD j (0, 0)).2 ∧
        x ≤ ((descend all cont i x (x : Int)).getD j (0, 0)).1 := by
  intro i hil x hx hh
  rw [descend_eq hok hst hcl i hil x hx hh]
  refine ⟨by simp, fun j hj => ?_⟩
  rw [getD_map_range _ _ hj]
  exact lastAt_isUpd (by omega) hx

end NutsProofs.SkipL
