/-
  NutsProofs.Lemmas.SkiplistInv — the state invariant `Inv` of the skiplist and what the other files take from
  it: the layout (`nextAt`, `gap`, `lastAt`) depends on the heights only; positions behind the header are the
  members; a descent from the header stands on `lastAt · i c` after the loop of level `i` (`Inv.walk_eq`), on
  the header above `level` and just below the cut at level 0.
-/
import NutsProofs.Lemmas.Skiplist
namespace NutsProofs.SkipL
open Nuts Nuts.Model Nuts.Model.Skiplist
open Nuts.Model.ZSetA (Node nlt)

/-! ### the level layout -/

/-- what `nextAt`, `fwd`, `gap`, `lastAt` look at -/
def heights (all : List Tower) : List Nat := all.map (·.spans.length)

theorem heightOf_heights (all : List Tower) (p : Nat) : heightOf all p = ((heights all)[p]?).getD 0 := by
  simp [heightOf, heights]

theorem heights_drop (all : List Tower) (k : Nat) : heights (all.drop k) = (heights all).drop k := List.map_drop

theorem lastAt_congr {a b : List Tower} (h : heights a = heights b) (i c : Nat) : lastAt a i c = lastAt b i c := by
  induction c with
  | zero => rfl
  | succ c ih => simp only [lastAt, heightOf_heights, h, ih]

theorem nextAt_congr {i : Nat} {l l' : List Tower} (h : heights l = heights l') : nextAt i l = nextAt i l' := by
  induction l generalizing l' with
  | nil =>
    cases l' with
    | nil => rfl
    | cons _ _ => simp [heights] at h
  | cons t ts ih =>
    cases l' with
    | nil => simp [heights] at h
    | cons t' ts' =>
      simp only [heights, List.map_cons, List.cons.injEq] at h
      simp only [nextAt, h.1, ih h.2]

theorem gap_congr {i : Nat} {l l' : List Tower} (h : heights l = heights l') : gap i l = gap i l' := by
  have hl : l.length = l'.length := by simpa [heights] using congrArg List.length h
  rw [gap, gap, nextAt_congr h, hl]

/-! ### the state invariant -/

theorem spansOK_lower {lv lv' : Nat} {l : List Tower} (h : SpansOK lv l) (hle : lv' ≤ lv) : SpansOK lv' l := by
  rw [spansOK_iff] at *
  exact fun p i hi hl => h p i hi (by omega)

/-- well-formed skiplist: a header with 32 levels, nodes with 1 to `level` levels, `length` the number of nodes,
every span a distance -/
structure Inv (s : SL) : Prop where
  hdr : ∃ h ts, s.all = h :: ts ∧ h.spans.length = maxLevel
  lvl : 1 ≤ s.level ∧ s.level ≤ maxLevel
  len : s.length = ((s.all.length - 1 : Nat) : Int)
  hts : ∀ t ∈ s.all.tail, 1 ≤ t.spans.length ∧ t.spans.length ≤ s.level
  spans : SpansOK s.level s.all

/-- all of `Inv` but `length` and the spans is a property of the heights -/
theorem inv_iff (s : SL) : Inv s ↔
    (heights s.all).head? = some maxLevel ∧ (1 ≤ s.level ∧ s.level ≤ maxLevel) ∧
    s.length = ((s.all.length - 1 : Nat) : Int) ∧ (∀ h ∈ (heights s.all).tail, 1 ≤ h ∧ h ≤ s.level) ∧
    SpansOK s.level s.all := by
  have e1 : (∃ h ts, s.all = h :: ts ∧ h.spans.length = maxLevel) ↔ (heights s.all).head? = some maxLevel := by
    cases s.all <;> simp [heights]
  have e2 : (∀ t ∈ s.all.tail, 1 ≤ t.spans.length ∧ t.spans.length ≤ s.level) ↔
      ∀ h ∈ (heights s.all).tail, 1 ≤ h ∧ h ≤ s.level := by
    simp [heights, ← List.map_tail]
  rw [← e1, ← e2]
  exact ⟨fun h => ⟨h.hdr, h.lvl, h.len, h.hts, h.spans⟩, fun ⟨a, b, c, d, e⟩ => ⟨a, b, c, d, e⟩⟩

theorem Inv.height0 {s : SL} (h : Inv s) : heightOf s.all 0 = maxLevel := by
  obtain ⟨hd, ts, e, hl⟩ := h.hdr
  simp [heightOf, e, hl]

theorem mem_tail_of_get {all : List Tower} {q : Nat} {t : Tower} (hg : all[q + 1]? = some t) : t ∈ all.tail := by
  rw [← List.drop_one]
  exact List.mem_of_getElem? (i := q) (by rw [List.getElem?_drop, Nat.add_comm]; exact hg)

theorem Inv.heightPos {s : SL} (h : Inv s) {q : Nat} (hq : q < s.all.length) : 1 ≤ heightOf s.all q := by
  cases q with
  | zero => rw [h.height0]; decide
  | succ q' =>
    have hg : s.all[q' + 1]? = some s.all[q' + 1] := List.getElem?_eq_getElem hq
    rw [heightOf_eq hg]
    exact (h.hts _ (mem_tail_of_get hg)).1

theorem Inv.heightLe {s : SL} (h : Inv s) {q : Nat} (hq1 : 1 ≤ q) : heightOf s.all q ≤ s.level := by
  obtain ⟨q', rfl⟩ := Nat.exists_eq_add_one.mpr hq1
  unfold heightOf
  cases hg : s.all[q' + 1]? with
  | none => exact Nat.zero_le _
  | some t => exact (h.hts t (mem_tail_of_get hg)).2

theorem Inv.span {s : SL} (h : Inv s) {p i : Nat} (hi : i < heightOf s.all p) (hl : i < s.level) :
    spanOf s.all p i = (gap i (s.all.drop (p + 1)) : Int) :=
  spansOK_iff.mp h.spans p i hi hl

theorem Inv.fwd_zero {s : SL} (h : Inv s) {p : Nat} (hp : p + 1 < s.all.length) : fwd s.all p 0 = some (p + 1) :=
  fwd_eq_some_iff.mpr ⟨Nat.lt_succ_self p, hp, h.heightPos hp, fun _ h1 h2 =>
    absurd (Nat.lt_of_lt_of_le h1 (Nat.le_of_lt_succ h2)) (Nat.lt_irrefl _)⟩

theorem heights_of_spans {l l' : List Tower} (h : l.map (·.spans) = l'.map (·.spans)) : heights l = heights l' := by
  have := congrArg (List.map List.length) h
  simpa [heights, List.map_map, Function.comp_def] using this

theorem spansOK_congr {lv : Nat} : ∀ {l l' : List Tower}, l.map (·.spans) = l'.map (·.spans) → SpansOK lv l → SpansOK lv l'
  | [], [], _, _ => trivial
  | [], _ :: _, h, _ => by simp at h
  | _ :: _, [], h, _ => by simp at h
  | t :: ts, t' :: ts', h, hok => by
    simp only [List.map_cons, List.cons.injEq] at h
    exact ⟨fun i hi hl => by rw [← h.1] at hi ⊢; rw [← gap_congr (heights_of_spans h.2)]; exact hok.1 i hi hl,
      spansOK_congr h.2 hok.2⟩

theorem inv_congr {s s' : SL} (hl : s'.level = s.level) (hn : s'.length = s.length)
    (hsp : s.all.map (·.spans) = s'.all.map (·.spans)) (h : Inv s) : Inv s' := by
  have hh : heights s'.all = heights s.all := (heights_of_spans hsp).symm
  have hlen : s'.all.length = s.all.length := by simpa using (congrArg List.length hsp).symm
  obtain ⟨a, b, c, d, e⟩ := (inv_iff s).mp h
  exact (inv_iff s').mpr ⟨by rw [hh]; exact a, by rw [hl]; exact b, by rw [hn, hlen]; exact c,
    by rw [hh, hl]; exact d, by rw [hl]; exact spansOK_congr hsp e⟩

/-! ### the towers behind the header are the members -/

theorem length_all {s : SL} (hinv : Inv s) : s.all.length = (nodes s).length + 1 := by
  obtain ⟨hd, ts, eall, _⟩ := hinv.hdr
  simp [nodes, eall]

theorem succ_lt_length_all {s : SL} (hinv : Inv s) {q : Nat} : q + 1 < s.all.length ↔ q < (nodes s).length := by
  rw [length_all hinv]; exact Nat.succ_lt_succ_iff

theorem length_nodes {s : SL} (hinv : Inv s) : s.length = ((nodes s).length : Int) := by
  rw [hinv.len, length_all hinv]; rfl

theorem length_toNat {s : SL} (hinv : Inv s) : s.length.toNat = (nodes s).length := by
  rw [length_nodes hinv, Int.toNat_natCast]

theorem isEmpty_nodes {s : SL} (hinv : Inv s) : (nodes s).isEmpty = decide (s.length = 0) := by
  rw [length_nodes hinv]
  cases nodes s with
  | nil => rfl
  | cons _ _ => exact (decide_eq_false (by rw [List.length_cons]; omega)).symm

theorem nodeOf_of_get {s : SL} (hinv : Inv s) {q : Nat} {x : Node} (h : (nodes s)[q]? = some x) : nodeOf s.all (q + 1) = x := by
  obtain ⟨hd, ts, eall, _⟩ := hinv.hdr
  rw [nodes, eall, List.tail_cons, List.getElem?_map] at h
  rw [nodeOf, eall, List.getElem?_cons_succ, h]
  rfl

theorem nodeOf_getElem {s : SL} (hinv : Inv s) {q : Nat} (h : q < (nodes s).length) : nodeOf s.all (q + 1) = (nodes s)[q] :=
  nodeOf_of_get hinv (List.getElem?_eq_getElem h)

theorem nodes_eq_tail (s : SL) : nodes s = (s.all.map (·.node)).tail := by simp [nodes, List.map_tail]

theorem nodes_of_all {s : SL} (hinv : Inv s) : s.all.map (·.node) = (s.all.headD default).node :: nodes s := by
  obtain ⟨hd, ts, eall, _⟩ := hinv.hdr
  simp [nodes, eall]

theorem steers_of_index {s : SL} (hinv : Inv s) {P : Node → Bool} {k : Nat}
    (hP : ∀ j y, (nodes s)[j]? = some y → (P y = true ↔ j < k)) : Steers s.all (fun _ f => P f) (k + 1) := by
  intro q hq1 hql
  obtain ⟨q', rfl⟩ := Nat.exists_eq_add_one.mpr hq1
  rw [length_all hinv] at hql
  rw [nodeOf_getElem hinv (by omega), hP q' _ (List.getElem?_eq_getElem (by omega))]
  omega

/-! ### descents from the header -/

theorem Inv.lastAt_isUpd {s : SL} (h : Inv s) {c i : Nat} (hc1 : 1 ≤ c) (hi : i < maxLevel) :
    IsUpd s.all c i (lastAt s.all i c) (lastAt s.all i c) :=
  (SkipL.lastAt_isUpd (by rw [h.height0]; exact hi) hc1).1

theorem Inv.lastAt_zero {s : SL} (h : Inv s) {c : Nat} (hcl : c ≤ s.all.length) : lastAt s.all 0 c = c - 1 := by
  cases c with
  | zero => rfl
  | succ c => rw [lastAt, if_pos (show 0 < heightOf s.all c from h.heightPos hcl)]; rfl

theorem Inv.lastAt_high {s : SL} (h : Inv s) {i : Nat} (hi : s.level ≤ i) (c : Nat) : lastAt s.all i c = 0 := by
  induction c with
  | zero => rfl
  | succ c ih =>
    rw [lastAt]
    by_cases hc : i < heightOf s.all c
    · rw [if_pos hc]
      cases c with
      | zero => rfl
      | succ c =>
        exact absurd (Nat.lt_of_lt_of_le hc (Nat.le_trans (h.heightLe (Nat.succ_pos c)) hi)) (Nat.lt_irrefl _)
    · rw [if_neg hc]; exact ih

theorem descend_header {s : SL} (hinv : Inv s) {cont : Int → Node → Bool} {c : Nat} (hc1 : 1 ≤ c)
    (hcl : c ≤ s.all.length) (hst : Steers s.all cont c) :
    descend s.all cont s.level 0 0 = (List.range s.level).map fun j => (lastAt s.all j c, (lastAt s.all j c : Int)) :=
  descend_eq hinv.spans hst hcl s.level (Nat.le_refl _) 0 hc1 (by rw [hinv.height0]; exact hinv.lvl.2)

/-- one loop of a descent from the header; its start `lastAt · (i + 1) c` is the header when `i + 1 = level`
(`Inv.lastAt_high`) -/
theorem Inv.walk_eq {s : SL} (h : Inv s) {cont : Int → Node → Bool} {c i : Nat} (hst : Steers s.all cont c)
    (hc1 : 1 ≤ c) (hcl : c ≤ s.all.length) (hi : i < s.level) :
    walk s.all i cont s.all.length (lastAt s.all (i + 1) c) (lastAt s.all (i + 1) c : Int) =
      (lastAt s.all i c, (lastAt s.all i c : Int)) := by
  by_cases hi1 : i + 1 < maxLevel
  · obtain ⟨_, a, b, _⟩ := h.lastAt_isUpd hc1 hi1
    exact SkipL.walk_eq h.spans hi hst hcl a (Nat.lt_of_succ_lt b)
  · rw [h.lastAt_high (Nat.le_trans h.lvl.2 (Nat.le_of_not_lt hi1)) c]
    exact SkipL.walk_eq h.spans hi hst hcl hc1 (h.height0 ▸ Nat.lt_of_lt_of_le hi h.lvl.2)

end NutsProofs.SkipL
