/-
  NutsProofs.Lemmas.SkiplistRefine — the skiplist refines the list ordered by (score, key): `insertNode` is
  `ZSetA.insertSorted`, `delete` of a member is `ZSetA.remove`, `Put` is `ZSetA.put`, for every level layout
  and every drawn level.
-/
import NutsProofs.Lemmas.SkiplistDel
namespace NutsProofs.SkipL
open Nuts Nuts.Model Nuts.Model.Skiplist NutsProofs.ZOrd
open Nuts.Model.ZSetA (Node nlt)

/-- the state invariant with the order: well-formed, strictly sorted by (score, key), keys distinct -/
structure OInv (s : SL) : Prop where
  inv : Inv s
  sorted : Sorted (nodes s)
  keys : ((nodes s).map (·.key)).Nodup

/-- the cut of a node predicate: one past the towers that satisfy it -/
def cutOf (s : SL) (P : Node → Bool) : Nat := ((nodes s).takeWhile P).length + 1

theorem steers_of_sorted {s : SL} (hinv : Inv s) {R : Node → Node → Prop} {P : Node → Bool}
    (hs : (nodes s).Pairwise R) (hmono : ∀ a b, R a b → P b = true → P a = true) :
    Steers s.all (fun _ f => P f) (cutOf s P) ∧ 1 ≤ cutOf s P ∧ cutOf s P ≤ s.all.length := by
  refine ⟨steers_of_index hinv (prefix_iff hs hmono), by simp [cutOf], ?_⟩
  have := takeWhile_length_le P (nodes s)
  rw [length_all hinv, cutOf]; omega

theorem insertNode_refines {s : SL} (h : OInv s) (n : Node) (lvl : Nat) (hl1 : 1 ≤ lvl) (hl2 : lvl ≤ maxLevel)
    (hfresh : ∀ x ∈ nodes s, x.key ≠ n.key) :
    Inv (insertNode s n lvl) ∧ nodes (insertNode s n lvl) = ZSetA.insertSorted (nodes s) n := by
  have hmono : ∀ a b, Lt a b → nlt b n = true → nlt a n = true := by
    intro a b hab hb
    exact (nlt_iff a n).mpr (Lt_trans hab ((nlt_iff b n).mp hb))
  obtain ⟨hst, hc1, hcl⟩ := steers_of_sorted h.inv h.sorted hmono
  obtain ⟨hinv', hnodes'⟩ := insert_inv h.inv n lvl (cutOf s (fun f => nlt f n)) hl1 hl2 hc1 hcl hst
  refine ⟨hinv', ?_⟩
  rw [nodes_eq_tail, hnodes', nodes_of_all h.inv]
  simp only [cutOf, List.take_succ_cons, List.drop_succ_cons, List.cons_append, List.tail_cons]
  obtain ⟨e1, e2⟩ := takeWhile_append_dropWhile_len (fun f => nlt f n) (nodes s)
  rw [insertSorted_eq _ _ hfresh, ← e1, ← e2]

theorem nlt_congr_target (f x : Node) : nlt f ⟨x.key, x.score, []⟩ = nlt f x := rfl

theorem oinv_deleteNode {s : SL} (h : OInv s) (xp : Nat) (hx1 : 1 ≤ xp) (hxl : xp < s.all.length) (upd : List Nat)
    (hU : ∀ i, i < s.level → IsUpd s.all xp i (upd.getD i 0) ((upd.getD i 0 : Nat) : Int)) :
    OInv (deleteNode s xp upd) ∧ nodes (deleteNode s xp upd) = (nodes s).eraseIdx (xp - 1) ∧
    (deleteNode s xp upd).level ≤ s.level := by
  obtain ⟨hinv', hnodes'⟩ := delete_inv h.inv xp hx1 hxl upd hU
  obtain ⟨x', rfl⟩ := Nat.exists_eq_add_one.mpr hx1
  have herase : nodes (deleteNode s (x' + 1) upd) = (nodes s).eraseIdx x' := by
    rw [nodes_eq_tail, hnodes', nodes_of_all h.inv, List.eraseIdx_cons_succ, List.tail_cons]
  have hsub : ((nodes s).eraseIdx x').Sublist (nodes s) := List.eraseIdx_sublist _ _
  refine ⟨⟨hinv', ?_, ?_⟩, herase, ?_⟩
  · rw [herase]; exact List.Pairwise.sublist hsub h.sorted
  · rw [herase]; exact List.Nodup.sublist (List.Sublist.map _ hsub) h.keys
  · exact shrinkLevel_le _ _

theorem delete_refines {s : SL} (h : OInv s) (j : Nat) (x : Node) (hj : (nodes s)[j]? = some x) :
    (delete s x.score x.key).2 = true ∧ Inv (delete s x.score x.key).1 ∧
    nodes (delete s x.score x.key).1 = ZSetA.remove (nodes s) x.key ∧
    nodes (delete s x.score x.key).1 = (nodes s).eraseIdx j := by
  have hxl : j + 1 < s.all.length := by
    rw [length_all h.inv]; exact Nat.succ_lt_succ (List.getElem?_eq_some_iff.mp hj).1
  -- the members before `x` in the (score, key) order are the `j` members before it in the list
  have hst : Steers s.all (fun _ f => nlt f x) (j + 1) :=
    steers_of_index h.inv fun j' y hj' => by rw [nlt_iff, sorted_lt_iff h.sorted hj hj']
  have hdel : delete s x.score x.key = (deleteNode s (j + 1) ((List.range s.level).map (lastAt s.all · (j + 1))), true) := by
    unfold delete
    simp only [nlt_congr_target, descend_header h.inv (Nat.le_add_left 1 j) (Nat.le_of_lt hxl) hst]
    rw [getD_map_range _ _ h.inv.lvl.1, h.inv.lastAt_zero (Nat.le_of_lt hxl)]
    simp only [Nat.add_sub_cancel, h.inv.fwd_zero hxl, nodeOf_of_get h.inv hj, and_self, if_true, List.map_map]
    rfl
  rw [hdel]
  obtain ⟨ho, herase, _⟩ := oinv_deleteNode h (j + 1) (Nat.le_add_left 1 j) hxl _ fun i hi => by
    rw [getD_map_range _ _ hi]
    exact h.inv.lastAt_isUpd (Nat.le_add_left 1 j) (Nat.lt_of_lt_of_le hi h.inv.lvl.2)
  refine ⟨rfl, ho.inv, ?_, herase⟩
  simp only
  rw [herase]
  unfold ZSetA.remove
  exact (filter_key_eraseIdx (nodes s) j x hj h.keys).symm

/-! ### `Put`, `Remove`, `PopMin`, `PopMax` -/

theorem find_eq (s : SL) (k : Bytes) : Skiplist.find? s k = ZSetA.find? (nodes s) k := by
  simp only [Skiplist.find?, ZSetA.find?, nodes, List.find?_map]
  rfl

theorem oinv_insertNode {s : SL} (h : OInv s) (n : Node) (lvl : Nat) (hl1 : 1 ≤ lvl) (hl2 : lvl ≤ maxLevel)
    (hfresh : ∀ x ∈ nodes s, x.key ≠ n.key) :
    OInv (insertNode s n lvl) ∧ nodes (insertNode s n lvl) = ZSetA.insertSorted (nodes s) n := by
  obtain ⟨hinv', hn'⟩ := insertNode_refines h n lvl hl1 hl2 hfresh
  refine ⟨⟨hinv', ?_, ?_⟩, hn'⟩
  · rw [hn']; exact insertSorted_sorted _ _ h.sorted hfresh
  · rw [hn']; exact insertSorted_keys_nodup _ _ h.keys hfresh

theorem oinv_delete {s : SL} (h : OInv s) {j : Nat} {x : Node} (hj : (nodes s)[j]? = some x) :
    OInv (delete s x.score x.key).1 ∧ nodes (delete s x.score x.key).1 = ZSetA.remove (nodes s) x.key := by
  obtain ⟨_, hinv1, hrem, _⟩ := delete_refines h j x hj
  refine ⟨⟨hinv1, ?_, ?_⟩, hrem⟩
  · rw [hrem]; exact remove_sorted _ _ h.sorted
  · rw [hrem]
    unfold ZSetA.remove
    exact List.Nodup.sublist (List.Sublist.map _ List.filter_sublist) h.keys

theorem put_refines {s : SL} (h : OInv s) (k : Bytes) (sc : Int) (v : Bytes) (lvl : Nat) (hl1 : 1 ≤ lvl) (hl2 : lvl ≤ maxLevel) :
    OInv (Skiplist.put s k sc v lvl) ∧ nodes (Skiplist.put s k sc v lvl) = ZSetA.put (nodes s) k sc v := by
  unfold Skiplist.put ZSetA.put
  rw [find_eq]
  cases hf : ZSetA.find? (nodes s) k with
  | none => exact oinv_insertNode h ⟨k, sc, v⟩ lvl hl1 hl2 (find_none_fresh hf)
  | some n =>
    simp only
    obtain ⟨rfl, j, hj⟩ := find_some_idx hf
    by_cases hsc : n.score = sc
    · -- the same score: values change, towers do not
      rw [if_pos hsc, if_pos hsc]
      obtain ⟨hd, ts, eall, _⟩ := h.inv.hdr
      let g : Tower → Tower := fun t => if t.node.key = n.key then { t with node := { t.node with value := v } } else t
      simp only [eall]
      change OInv { level := s.level, length := s.length, all := hd :: ts.map g } ∧
        nodes { level := s.level, length := s.length, all := hd :: ts.map g } = _
      have hnodes' : nodes { level := s.level, length := s.length, all := hd :: ts.map g } =
          (nodes s).map fun x => if x.key = n.key then { x with value := v } else x := by
        simp only [nodes, eall, List.tail_cons, List.map_map]
        exact List.map_congr_left fun t _ => by simp only [Function.comp, g]; split <;> rfl
      refine ⟨⟨inv_congr (s := s) rfl rfl ?_ h.inv, ?_, ?_⟩, hnodes'⟩
      · simp only [eall, List.map_cons, List.map_map]
        congr 1
        exact List.map_congr_left fun t _ => by simp only [Function.comp, g]; split <;> rfl
      · rw [hnodes']; exact setValue_sorted _ _ _ h.sorted
      · rw [hnodes', List.map_map]
        have : ((fun x : Node => x.key) ∘ fun x => if x.key = n.key then { x with value := v } else x) = fun x => x.key := by
          funext x; simp only [Function.comp]; split <;> rfl
        rw [this]; exact h.keys
    · rw [if_neg hsc, if_neg hsc]
      obtain ⟨h1, hrem⟩ := oinv_delete h hj
      rw [← hrem]
      exact oinv_insertNode h1 ⟨n.key, sc, v⟩ lvl hl1 hl2 fun x hx => by
        rw [hrem] at hx; exact ((mem_remove _ _ _).mp hx).2

theorem remove_refines {s : SL} (h : OInv s) (k : Bytes) :
    OInv (Skiplist.remove s k).1 ∧ nodes (Skiplist.remove s k).1 = ZSetA.remove (nodes s) k ∧
    (Skiplist.remove s k).2 = ZSetA.find? (nodes s) k := by
  unfold Skiplist.remove
  rw [find_eq]
  cases hf : ZSetA.find? (nodes s) k with
  | none =>
    refine ⟨h, ?_, rfl⟩
    simp only
    unfold ZSetA.remove
    rw [List.filter_eq_self.mpr]
    intro x hx
    simpa using find_none_fresh hf x hx
  | some n =>
    obtain ⟨rfl, j, hj⟩ := find_some_idx hf
    exact ⟨(oinv_delete h hj).1, (oinv_delete h hj).2, rfl⟩

theorem remove_member {s : SL} (h : OInv s) {j : Nat} {x : Node} (hj : (nodes s)[j]? = some x) :
    OInv (Skiplist.remove s x.key).1 ∧ nodes (Skiplist.remove s x.key).1 = (nodes s).eraseIdx j := by
  have e : Skiplist.remove s x.key = ((delete s x.score x.key).1, some x) := by
    unfold Skiplist.remove; rw [find_eq, find_of_get h.keys hj]
  rw [e]
  exact ⟨(oinv_delete h hj).1, (delete_refines h j x hj).2.2.2⟩

theorem peekMin_refines {s : SL} (hinv : Inv s) : peekMin s = (nodes s).head? := by
  unfold peekMin
  cases hns : nodes s with
  | nil =>
    cases hf : fwd s.all 0 0 with
    | none => rfl
    | some q =>
      obtain ⟨h1, h2, _⟩ := fwd_eq_some_iff.mp hf
      rw [length_all hinv, hns] at h2
      exact absurd (Nat.lt_of_lt_of_le h1 (Nat.le_of_lt_succ h2)) (Nat.lt_irrefl _)
  | cons x xs =>
    rw [hinv.fwd_zero (by rw [length_all hinv, hns]; exact Nat.succ_lt_succ (Nat.succ_pos _)), Option.map_some,
      nodeOf_of_get hinv (q := 0) (by rw [hns]; rfl)]
    rfl

theorem peekMax_refines (s : SL) : peekMax s = (nodes s).getLast? := by
  unfold peekMax nodes
  rw [List.getLast?_map]

theorem popMin_refines {s : SL} (h : OInv s) :
    OInv (Skiplist.popMin s).1 ∧ nodes (Skiplist.popMin s).1 = (ZSetA.popMin (nodes s)).2 ∧
    (Skiplist.popMin s).2 = (ZSetA.popMin (nodes s)).1 := by
  unfold Skiplist.popMin
  rw [peekMin_refines h.inv]
  cases hns : nodes s with
  | nil => simp only [List.head?_nil, ZSetA.popMin]; exact ⟨h, hns, by first | rfl | trivial⟩
  | cons x xs =>
    simp only [List.head?_cons, ZSetA.popMin]
    obtain ⟨a, b⟩ := remove_member h (j := 0) (x := x) (by rw [hns]; rfl)
    exact ⟨a, by rw [b, hns]; rfl, trivial⟩

theorem popMax_refines {s : SL} (h : OInv s) :
    OInv (Skiplist.popMax s).1 ∧ nodes (Skiplist.popMax s).1 = (ZSetA.popMax (nodes s)).2 ∧
    (Skiplist.popMax s).2 = (ZSetA.popMax (nodes s)).1 := by
  unfold Skiplist.popMax ZSetA.popMax
  rw [peekMax_refines]
  cases hl : (nodes s).getLast? with
  | none => exact ⟨h, rfl, rfl⟩
  | some x =>
    simp only
    have hlen : 0 < (nodes s).length := List.length_pos_iff.mpr fun e => by rw [e] at hl; cases hl
    obtain ⟨a, b⟩ := remove_member h (j := (nodes s).length - 1) (x := x) (by
      rw [List.getLast?_eq_getElem?] at hl; exact hl)
    refine ⟨a, ?_, trivial⟩
    rw [b, List.eraseIdx_eq_dropLast (Nat.sub_add_cancel hlen)]

theorem oinv_empty : OInv Skiplist.empty := by
  refine ⟨⟨⟨_, [], rfl, by simp [maxLevel]⟩, by decide, by simp [Skiplist.empty], by simp [Skiplist.empty], ?_⟩, ?_, ?_⟩
  · refine ⟨?_, trivial⟩
    intro i _ hi
    have : i = 0 := by simp only [Skiplist.empty] at hi; omega
    subst this
    decide
  · simp [Skiplist.empty, nodes, Sorted]
  · simp [Skiplist.empty, nodes]

end NutsProofs.SkipL
