/-
  NutsProofs.Lemmas.SparseGet — `Get` in sparse index mode (Nuts.Model.Sparse) along every history of
  successful key/value commits: the active tree is searched first, then the sealed segments newest first, each
  through its key range and its content, and what comes back is the latest record written under the composite
  key `bucket ++ key` — live, or "not found" when that record is a tombstone or has expired.

  The composite key is the point: sparse mode is an ordered map on `bucket ++ key` (finding D-SPARSE-CONCAT is
  exactly the cases in which two (bucket, key) pairs share one composite key).

  How it hangs together: every tree — the active one and each sealed one — is the index `idxOf` of one data
  file, so looking a key up in it finds the last record of that key in the file (`aget_idxOf`); "last record of
  the key" of a concatenation is that of the right part, else that of the left part (`latestIn_append`), which
  is also how `Get` walks the files. `Commit` is `rotate`, `put1` (write one record and index it) and `lastTx`
  (note the transaction id), each with its own preservation lemma; `Open` replays `put1`'s indexing step.
-/
import Nuts.Model.Sparse
import NutsProofs.Lemmas.Assoc
import NutsProofs.Lemmas.Hints
namespace NutsProofs.SparseGet
open Nuts Nuts.Model Nuts.Model.DB Nuts.Model.Sparse

/-! ### two lists related element by element -/

inductive All2 {α β : Type} (R : α → β → Prop) : List α → List β → Prop
  | nil : All2 R [] []
  | cons {a b as bs} : R a b → All2 R as bs → All2 R (a :: as) (b :: bs)

theorem All2.append {α β : Type} {R : α → β → Prop} {as as' : List α} {bs bs' : List β}
    (h : All2 R as bs) (h' : All2 R as' bs') : All2 R (as ++ as') (bs ++ bs') := by
  induction h with
  | nil => exact h'
  | cons hr _ ih => exact All2.cons hr ih

section
variable {α β : Type} {R S : α → β → Prop} {as : List α} {bs : List β}

theorem All2.reverse (h : All2 R as bs) : All2 R as.reverse bs.reverse := by
  induction h with
  | nil => exact All2.nil
  | cons hr _ ih =>
    simp only [List.reverse_cons]
    exact All2.append ih (All2.cons hr All2.nil)

theorem All2.map_left (f : α → α) (h : All2 R as bs) (hi : ∀ a b, R a b → S (f a) b) : All2 S (as.map f) bs := by
  induction h with
  | nil => exact All2.nil
  | cons hr _ ih => exact All2.cons (hi _ _ hr) ih

theorem All2.imp (h : All2 R as bs) (hi : ∀ a b, R a b → S a b) : All2 S as bs := by
  have := h.map_left id hi
  rwa [List.map_id] at this

theorem All2.mem_left (h : All2 R as bs) : ∀ a ∈ as, ∃ b ∈ bs, R a b := by
  induction h with
  | nil => nofun
  | cons hr _ ih =>
    intro a ha
    rcases List.mem_cons.mp ha with rfl | e
    · exact ⟨_, List.mem_cons_self .., hr⟩
    · obtain ⟨b, hb, hrb⟩ := ih a e
      exact ⟨b, List.mem_cons_of_mem _ hb, hrb⟩

end

/-! ### the index a file denotes, and the latest record of a composite key in it -/

def idxStep (fid : Nat) (m : Assoc Idx) (p : Nat × Rec) : Assoc Idx :=
  if p.2.ds == dsKV then upsert m (newKey p.2) ⟨p.2, fid, p.1⟩ else m

/-- the tree `BPTree.Insert` builds from the key/value records of a file, in write order -/
def idxOf (fid : Nat) (recs : List (Nat × Rec)) (m : Assoc Idx) : Assoc Idx := recs.foldl (idxStep fid) m

def isKey (nk : Bytes) (p : Nat × Rec) : Bool := p.2.ds == dsKV && newKey p.2 == nk

/-- the last key/value record written under composite key `nk` -/
def latestIn (recs : List (Nat × Rec)) (nk : Bytes) : Option (Nat × Rec) := (recs.filter (isKey nk)).getLast?

theorem latestIn_append (xs ys : List (Nat × Rec)) (nk : Bytes) :
    latestIn (xs ++ ys) nk = (latestIn ys nk).or (latestIn xs nk) := by
  simp only [latestIn, List.filter_append, List.getLast?_append]

theorem latestIn_mem {recs : List (Nat × Rec)} {nk : Bytes} {p : Nat × Rec} (h : latestIn recs nk = some p) : p ∈ recs :=
  (List.mem_filter.mp (List.mem_of_getLast? h)).1

theorem idxOf_snoc (fid : Nat) (recs : List (Nat × Rec)) (p : Nat × Rec) (m : Assoc Idx) :
    idxOf fid (recs ++ [p]) m = idxStep fid (idxOf fid recs m) p := by
  simp [idxOf, List.foldl_append]

theorem aget_idxStep (fid : Nat) (m : Assoc Idx) (p : Nat × Rec) (nk : Bytes) :
    aget? (idxStep fid m p) nk = if isKey nk p then some ⟨p.2, fid, p.1⟩ else aget? m nk := by
  unfold idxStep isKey
  by_cases hkv : (p.2.ds == dsKV) = true
  · by_cases hk : newKey p.2 = nk
    · subst hk; simp [hkv, aget_upsert_self]
    · simp [hkv, hk, aget_upsert_other _ _ _ _ (Ne.symm hk)]
  · simp [hkv]

theorem aget_idxOf (fid : Nat) (recs : List (Nat × Rec)) (m : Assoc Idx) (nk : Bytes) :
    aget? (idxOf fid recs m) nk = ((latestIn recs nk).map fun p => ⟨p.2, fid, p.1⟩).or (aget? m nk) := by
  induction recs generalizing m with
  | nil => rfl
  | cons p rest ih =>
    rw [show idxOf fid (p :: rest) m = idxOf fid rest (idxStep fid m p) from rfl, ih, aget_idxStep,
      show p :: rest = [p] ++ rest from rfl, latestIn_append]
    cases latestIn rest nk with
    | some q => rfl
    | none => by_cases hp : isKey nk p = true <;> simp [latestIn, hp]

theorem idxOf_keys (fid : Nat) (recs : List (Nat × Rec)) (q : Bytes × Idx) (h : q ∈ idxOf fid recs []) :
    ∃ p, latestIn recs q.1 = some p := by
  obtain ⟨v, hv⟩ := exists_aget_of_mem h
  rw [aget_idxOf, show aget? ([] : Assoc Idx) q.1 = none from rfl, Option.or_none] at hv
  obtain ⟨p, hp, _⟩ := Option.map_eq_some_iff.mp hv
  exact ⟨p, hp⟩

/-! ### index entries up to the status byte

`Open` rebuilds the active tree with every cached record marked Committed, `Commit` caches the record as it was
written (only the last one of a transaction is marked): the reads use the entry's position and transaction id
only, so the invariant compares trees up to the status byte of the cached record. -/

def nrm (i : Idx) : Idx := { i with r := Reopen.committedRec i.r }
def nmap (m : Assoc Idx) : Assoc Idx := m.map fun p => (p.1, nrm p.2)

theorem aget_nmap (m : Assoc Idx) (k : Bytes) : aget? (nmap m) k = (aget? m k).map nrm := aget_map nrm m k

theorem nmap_upsert (m : Assoc Idx) (k : Bytes) (i : Idx) : nmap (upsert m k i) = upsert (nmap m) k (nrm i) :=
  upsert_map nrm m k i

/-- what `Get` finds in a tree that is, up to the status byte, the index of a data file -/
theorem lookup_indexed {m : Assoc Idx} {f : File} {fs : List File} (h : nmap m = nmap (idxOf f.fid f.recs []))
    (hwf : Hints.WellFormed fs) (hf : f ∈ fs) (seg : Nat) (nk : Bytes) :
    match latestIn f.recs nk with
    | none => aget? m nk = none
    | some p => p ∈ f.recs ∧ ∃ i, aget? m nk = some i ∧ i.fid = f.fid ∧ i.r.txid = p.2.txid ∧
        readAt fs seg i.fid i.pos = .ok (some p.2) := by
  have hg : (aget? m nk).map nrm = (latestIn f.recs nk).map fun p => nrm ⟨p.2, f.fid, p.1⟩ := by
    rw [← aget_nmap, h, aget_nmap, aget_idxOf]
    cases latestIn f.recs nk <;> rfl
  cases hl : latestIn f.recs nk with
  | none => rw [hl] at hg; exact Option.map_eq_none_iff.mp hg
  | some p =>
    rw [hl] at hg
    obtain ⟨i, hgi, hni⟩ := Option.map_eq_some_iff.mp hg
    refine ⟨latestIn_mem hl, i, hgi, congrArg Idx.fid hni, congrArg (fun x => x.r.txid) hni, ?_⟩
    rw [show i.fid = f.fid from congrArg Idx.fid hni, show i.pos = p.1 from congrArg Idx.pos hni]
    exact Hints.readAt_of_mem _ _ f _ _ hwf hf (latestIn_mem hl)

/-! ### what `Get` does with a tree that has the key, and with one that has not -/

/-- the answer for a record that was found: a tombstone or an expired record is "not found" -/
def judged (r : Rec) (now : Nat) : Outcome (Option Rec) := if dead r now then .err else .ok (some r)

theorem get_active_hit (s : SState) (b k : Bytes) (now : Nat) (i : Idx) (r : Rec)
    (hi : aget? s.active (b ++ k) = some i) (hc : s.activeTx.contains i.r.txid = true)
    (hr : readRec s i = .ok (some r)) : Sparse.get s b k now = judged r now := by
  simp only [Sparse.get, hi, hc, hr, if_true]
  rfl

theorem get_active_miss (s : SState) (b k : Bytes) (now : Nat) (hi : aget? s.active (b ++ k) = none) :
    Sparse.get s b k now = getOnDisk s (b ++ k) now (segsDesc s) := by
  simp only [Sparse.get, hi]

theorem getOnDisk_skip (s : SState) (nk : Bytes) (now : Nat) (g : Seg) (rest : List Seg)
    (h : aget? g.content nk = none) : getOnDisk s nk now (g :: rest) = getOnDisk s nk now rest := by
  simp only [getOnDisk, h, ite_self]

theorem getOnDisk_hit (s : SState) (nk : Bytes) (now : Nat) (g : Seg) (rest : List Seg) (i : Idx) (r : Rec)
    (hrange : inRange nk g.first g.last = true) (hi : aget? g.content nk = some i)
    (hr : readAt s.files s.seg g.fid i.pos = .ok (some r)) :
    getOnDisk s nk now (g :: rest) =
      if dead r now then .err
      else if s.activeTx.contains r.txid || g.txids.contains r.txid then .ok (some r) else .err := by
  simp only [getOnDisk, hrange, if_true, hi, hr]
  cases dead r now <;> cases s.activeTx.contains r.txid <;> cases g.txids.contains r.txid <;> rfl

/-! ### the invariant between two commits (and, with `cur`, inside one) -/

/-- a sealed segment and the file it was sealed from -/
structure SegOk (g : Seg) (f : File) (cur : Option Nat) (reserved : List Nat) : Prop where
  fid : g.fid = f.fid
  content : nmap g.content = nmap (idxOf f.fid f.recs [])
  bounds : ∀ q ∈ g.content, inRange q.1 g.first g.last = true
  tx : ∀ p ∈ f.recs, p.2.txid ∈ g.txids ∨ (some p.2.txid = cur ∧ g.fid ∈ reserved)

structure SInv (s : SState) (cur : Option Nat) (reserved : List Nat) : Prop where
  /-- the files: the sealed ones in ascending id order, then the active one -/
  split : ∃ pre fa, s.files = pre ++ [fa] ∧ fa.fid = s.activeFid ∧ (∀ g ∈ pre, g.fid < s.activeFid) ∧
    All2 (fun g f => SegOk g f cur reserved) s.sealed pre ∧
    nmap s.active = nmap (idxOf s.activeFid fa.recs []) ∧
    (∀ p ∈ fa.recs, p.1 < s.writeOff) ∧
    (∀ p ∈ fa.recs, p.2.txid ∈ s.activeTx ∨ some p.2.txid = cur) ∧
    -- what a reopen needs: no empty key, every transaction of the active file has its commit mark there, the
    -- offsets ascend, the file is not torn
    (∀ p ∈ fa.recs, p.2.key ≠ []) ∧
    (∀ p ∈ fa.recs, (∃ q ∈ fa.recs, q.2.status = 1 ∧ q.2.txid = p.2.txid) ∨ some p.2.txid = cur) ∧
    fa.recs.Pairwise (fun a b => a.1 < b.1) ∧ fa.torn = false
  wf : Hints.WellFormed s.files
  asc : s.sealed.Pairwise (fun a b => a.fid < b.fid)

/-- the newest file that holds a record of composite key `nk`, and that record -/
def latestFile : List File → Bytes → Option Rec
  | [], _ => none
  | f :: older, nk =>
    match latestIn f.recs nk with
    | some p => some p.2
    | none => latestFile older nk

/-- over the sealed segments newest first, the newest sealed file that has the key decides -/
theorem getOnDisk_spec (s : SState) (nk : Bytes) (now : Nat) (hwf : Hints.WellFormed s.files) :
    ∀ (gs : List Seg) (fs : List File), All2 (fun g f => SegOk g f none []) gs fs → (∀ f ∈ fs, f ∈ s.files) →
      getOnDisk s nk now gs = match latestFile fs nk with
        | some r => judged r now
        | none => .err := by
  intro gs fs h
  induction h with
  | nil => intro _; rfl
  | @cons g f _ _ hgf _ ih =>
    intro hmem
    obtain ⟨hf, hmem'⟩ := List.forall_mem_cons.mp hmem
    have hg := lookup_indexed hgf.content hwf hf s.seg nk
    simp only [latestFile]
    generalize latestIn f.recs nk = o at hg ⊢
    cases o with
    | none => rw [getOnDisk_skip _ _ _ _ _ hg]; exact ih hmem'
    | some p =>
      obtain ⟨hpm, i, hgi, hifid, -, hr⟩ := hg
      have htx : g.txids.contains p.2.txid = true := by simpa using (hgf.tx p hpm).resolve_right fun h => nomatch h.1
      rw [getOnDisk_hit s nk now g _ i p.2 (hgf.bounds _ (aget_mem _ _ _ hgi)) hgi (hgf.fid ▸ hifid ▸ hr), htx, Bool.or_true]
      rfl

/-- **`Get` in sparse mode.** Between two commits: the active tree, then the sealed segments newest first; the
latest record written under the composite key decides, a tombstone or an expired record answers "not found". -/
theorem get_spec (s : SState) (h : SInv s none []) (b k : Bytes) (now : Nat) :
    Sparse.get s b k now = match latestFile s.files.reverse (b ++ k) with
      | some r => judged r now
      | none => .err := by
  obtain ⟨pre, fa, hfiles, hfid, -, hsegs, hact, -, htx, -⟩ := h.split
  have hg := lookup_indexed (hfid ▸ hact) h.wf (by rw [hfiles]; simp) s.seg (b ++ k)
  rw [hfiles, List.reverse_append, List.reverse_singleton, List.singleton_append]
  simp only [latestFile]
  generalize latestIn fa.recs (b ++ k) = o at hg ⊢
  cases o with
  | some p =>
    obtain ⟨hpm, i, hgi, -, hitx, hr⟩ := hg
    refine get_active_hit s b k now i p.2 hgi ?_ hr
    rw [hitx]; simpa using (htx p hpm).resolve_right nofun
  | none =>
    rw [get_active_miss _ _ _ _ hg]
    exact getOnDisk_spec s (b ++ k) now h.wf _ _ hsegs.reverse (fun f hf => by
      rw [hfiles]; exact List.mem_append_left _ (List.mem_reverse.mp hf))

/-! ### the latest record of the whole log -/

/-- the last record of the log (files in id order, records in write order) that satisfies `q` -/
def lastInLog (fs : List File) (q : Rec → Bool) : Option Rec :=
  ((allRecs fs).filter fun x => q x.1).getLast?.map (·.1)

theorem lastInLog_append (a b : List File) (q : Rec → Bool) : lastInLog (a ++ b) q = (lastInLog b q).or (lastInLog a q) := by
  simp only [lastInLog, allRecs_append, List.filter_append, List.getLast?_append, Option.map_or]

theorem lastInLog_congr {fs : List File} {q q' : Rec → Bool} (h : ∀ x ∈ allRecs fs, q x.1 = q' x.1) :
    lastInLog fs q = lastInLog fs q' := by
  unfold lastInLog
  rw [List.filter_congr h]

theorem lastInLog_singleton (f : File) (nk : Bytes) :
    lastInLog [f] (fun r => r.ds == dsKV && newKey r == nk) = (latestIn f.recs nk).map (·.2) := by
  simp only [lastInLog, allRecs, List.flatMap_singleton, List.filter_map, List.getLast?_map, Option.map_map, latestIn]
  rfl

/-- newest file first, last record in it = last record of the log -/
theorem latestFile_rev (rs : List File) (nk : Bytes) :
    latestFile rs nk = lastInLog rs.reverse (fun r => r.ds == dsKV && newKey r == nk) := by
  induction rs with
  | nil => rfl
  | cons f older ih =>
    rw [List.reverse_cons, lastInLog_append, lastInLog_singleton, ← ih]
    simp only [latestFile]
    cases latestIn f.recs nk <;> rfl

theorem latestFile_eq (fs : List File) (nk : Bytes) :
    latestFile fs.reverse nk = lastInLog fs (fun r => r.ds == dsKV && newKey r == nk) := by
  rw [latestFile_rev, List.reverse_reverse]

/-! ### `Commit` keeps the invariant -/

def le (a b : Bytes) : Prop := bcmp a b ≠ .gt

theorem le_refl (a : Bytes) : le a a := by unfold le; rw [bcmp_refl]; simp

theorem inRange_iff (k lo hi : Bytes) : inRange k lo hi = true ↔ le lo k ∧ le k hi := by
  unfold inRange le
  simp only [Bool.and_eq_true, bne_iff_ne, ne_eq, bcmp_gt_iff_lt lo k]

/-- `LastKey` after `treeInsert`: the larger of the key and the old one -/
theorem le_newLast (k l : Bytes) : le k (if bcmp k l == .gt then k else l) ∧ le l (if bcmp k l == .gt then k else l) := by
  by_cases hc : bcmp k l = .gt
  · simp only [hc, beq_self_eq_true, if_true]; exact ⟨le_refl k, bcmp_le_of_gt hc⟩
  · simp only [beq_iff_eq, hc, if_false]; exact ⟨hc, le_refl l⟩

/-- `FirstKey` after `treeInsert`: the key itself when there was none, else the smaller -/
theorem newFirst_le (k f : Bytes) (hk : k ≠ []) :
    let n := if f.isEmpty then k else if bcmp k f == .lt then k else f
    le n k ∧ (f ≠ [] → le n f) ∧ n ≠ [] := by
  by_cases he : f = []
  · subst he; exact ⟨le_refl k, fun h => absurd rfl h, hk⟩
  · simp only [List.isEmpty_iff, he, if_false]
    by_cases hc : bcmp k f = .lt
    · simp only [hc, beq_self_eq_true, if_true]; exact ⟨le_refl k, fun _ => by unfold le; rw [hc]; simp, hk⟩
    · simp only [beq_iff_eq, hc, if_false]; exact ⟨fun hg => hc ((bcmp_gt_iff_lt f k).mp hg), fun _ => le_refl f, he⟩

/-- the active tree's `FirstKey` / `LastKey` bound its keys -/
def ABounds (s : SState) : Prop :=
  (∀ q ∈ s.active, le s.first q.1 ∧ le q.1 s.last) ∧ (s.active = [] ∨ s.first ≠ [])

theorem abounds_empty {s : SState} (h : s.active = []) : ABounds s := ⟨by rw [h]; nofun, Or.inl h⟩

theorem treeInsert_bounds (s : SState) (k : Bytes) (i : Idx) (h : ABounds s) (hk : k ≠ []) : ABounds (treeInsert s k i) := by
  obtain ⟨hb, hne⟩ := h
  have hlast := le_newLast k s.last
  obtain ⟨hf1, hf2, hf3⟩ := newFirst_le k s.first hk
  refine ⟨fun q hq => ?_, Or.inr hf3⟩
  rcases mem_upsert _ _ _ _ hq with rfl | e
  · exact ⟨hf1, hlast.1⟩
  · exact ⟨bcmp_le_trans (hf2 (hne.resolve_left (List.ne_nil_of_mem e))) (hb q e).1, bcmp_le_trans (hb q e).2 hlast.2⟩

theorem newKey_ne (r : Rec) (h : r.key ≠ []) : newKey r ≠ [] := fun e => h (List.append_eq_nil_iff.mp e).2

/-- `BPTree.Insert` of the entry of a record when it is a key/value record (`index1_eq`): the one step by which both
`Commit` and `Open` build the active tree. Written as an update of the three fields of the tree, so that every
other field of the result reduces to the field of `s`. -/
def index1 (s : SState) (r : Rec) (i : Idx) : SState :=
  let t := if r.ds == dsKV then treeInsert s (newKey r) i else s
  { s with active := t.active, first := t.first, last := t.last }

theorem index1_eq (s : SState) (r : Rec) (i : Idx) : index1 s r i = if r.ds == dsKV then treeInsert s (newKey r) i else s := by
  unfold index1
  split <;> rfl

theorem index1_bounds {s : SState} (hb : ABounds s) {r : Rec} (hk : r.key ≠ []) (i : Idx) : ABounds (index1 s r i) := by
  rw [index1_eq]
  split
  · exact treeInsert_bounds _ _ _ hb (newKey_ne r hk)
  · exact hb

theorem index1_nmap {s : SState} {m : Assoc Idx} (h : nmap s.active = nmap m) (fid : Nat) (p : Nat × Rec) {i : Idx}
    (hi : nrm i = nrm ⟨p.2, fid, p.1⟩) : nmap (index1 s p.2 i).active = nmap (idxStep fid m p) := by
  rw [index1_eq]
  unfold idxStep
  split
  · show nmap (upsert s.active _ _) = _
    rw [nmap_upsert, nmap_upsert, h, hi]
  · exact h

theorem SInv.metas {s : SState} {cur : Option Nat} {res : List Nat} (h : SInv s cur res) (ms : Assoc (Bytes × Bytes)) :
    SInv { s with metas := ms } cur res := ⟨h.split, h.wf, h.asc⟩

theorem SegOk.imp {g : Seg} {f : File} {cur cur' : Option Nat} {res res' : List Nat} (h : SegOk g f cur res)
    (hi : ∀ x, some x = cur → g.fid ∈ res → some x = cur' ∧ g.fid ∈ res') : SegOk g f cur' res' :=
  ⟨h.fid, h.content, h.bounds, fun p hp => (h.tx p hp).imp_right fun ⟨h1, h2⟩ => hi _ h1 h2⟩

theorem wellFormed_new {fs : List File} {nf : Nat} (h : Hints.WellFormed fs) (hlt : ∀ g ∈ fs, g.fid < nf) :
    Hints.WellFormed (fs ++ [{ fid := nf, recs := [] }]) :=
  ⟨pairwise_snoc.mpr ⟨h.1, fun a ha => Nat.ne_of_lt (hlt a ha)⟩, forall_mem_snoc.mpr ⟨h.2, .nil⟩⟩

theorem wellFormed_append {pre : List File} {fa : File} {off : Nat} (r : Rec) (h : Hints.WellFormed (pre ++ [fa]))
    (hoff : ∀ p ∈ fa.recs, p.1 < off) : Hints.WellFormed (pre ++ [{ fa with recs := fa.recs ++ [(off, r)] }]) := by
  obtain ⟨hpre, hfa⟩ := forall_mem_snoc.mp h.2
  exact ⟨pairwise_snoc.mpr (pairwise_snoc.mp h.1 : _ ∧ ∀ x ∈ pre, x.fid ≠ fa.fid),
    forall_mem_snoc.mpr ⟨hpre, pairwise_snoc.mpr ⟨hfa, fun a ha => Nat.ne_of_lt (hoff a ha)⟩⟩⟩

/-- sealing the active tree at a rotation -/
theorem rotate_inv (c c' : CommitSt) (tid : Nat) (h : SInv c.s (some tid) c.reserved) (hb : ABounds c.s)
    (hr : Sparse.rotate c = some c') :
    SInv c'.s (some tid) c'.reserved ∧ ABounds c'.s ∧ c'.s.seg = c.s.seg := by
  simp only [Sparse.rotate] at hr
  split at hr
  · cases hr
  · cases hr
    obtain ⟨pre, fa, hfiles, hfid, hlt, hsegs, hact, -, htx, -⟩ := h.split
    have hall : ∀ g ∈ c.s.files, g.fid < c.s.activeFid + 1 := by
      rw [hfiles]
      exact forall_mem_snoc.mpr ⟨fun g hg => Nat.lt_succ_of_lt (hlt g hg), by omega⟩
    have hens := fileEnsure_new c.s.files _ hall
    refine ⟨⟨⟨c.s.files, _, hens, rfl, hall, ?_, rfl, nofun, nofun, nofun, nofun, .nil, rfl⟩, ?_, ?_⟩,
      abounds_empty rfl, rfl⟩
    · -- the sealed segments stay as they are; the new one is the active tree with its file
      show All2 _ (c.s.sealed ++ [_]) c.s.files
      rw [hfiles]
      refine (hsegs.imp fun g f hgf => hgf.imp fun _ h1 h2 => ⟨h1, List.mem_append_left _ h2⟩).append
        (.cons ⟨hfid.symm, hfid ▸ hact, fun q hq => (inRange_iff ..).mpr (hb.1 q hq), fun p hp => ?_⟩ .nil)
      exact (htx p hp).imp_right fun h2 => ⟨h2, List.mem_append_right _ (List.mem_singleton_self _)⟩
    · show Hints.WellFormed (fileEnsure c.s.files (c.s.activeFid + 1))
      rw [hens]; exact wellFormed_new h.wf hall
    · refine pairwise_snoc.mpr ⟨h.asc, fun a ha => ?_⟩
      obtain ⟨f, hf, hgf⟩ := hsegs.mem_left a ha
      rw [hgf.fid]; exact hlt f hf

/-! #### one iteration of the write loop, after the rotation test -/

def lastTx (s : SState) (tid : Nat) (reserved : List Nat) : SState :=
  { s with activeTx := if s.activeTx.contains tid then s.activeTx else s.activeTx ++ [tid],
           sealed := s.sealed.map fun g => if reserved.contains g.fid && !g.txids.contains tid then { g with txids := g.txids ++ [tid] } else g }

def writeCore (c1 : CommitSt) (r : Rec) (last : Bool) : CommitSt :=
  let s := c1.s
  let r1 := markLast r last
  let off := s.writeOff
  let s2 := { s with files := fileAppend s.files s.activeFid off r1, actualSize := s.actualSize + r1.size, writeOff := s.writeOff + r1.size }
  let tmp := tmpUpdate c1.tmp r1.key
  let s3 :=
    if last then
      let s' := lastTx s2 r1.txid c1.reserved
      match tmp with
      | some t => { s' with metas := metaUpdate s'.metas r1.bucket t }
      | none => s'
    else s2
  let s4 := if r1.ds == dsKV then treeInsert s3 (newKey r1) ⟨r1, s.activeFid, off⟩ else s3
  { c1 with s := s4, tmp := tmp }

theorem writeRec_eq (c : CommitSt) (r : Rec) (last : Bool) :
    Sparse.writeRec c r last =
      (if c.s.actualSize + r.size > c.s.seg then Sparse.rotate c else some c).map fun c1 => writeCore c1 r last := by
  unfold Sparse.writeRec
  cases (if c.s.actualSize + r.size > c.s.seg then Sparse.rotate c else some c) with
  | none => rfl
  | some c1 => rfl

/-- write one record at the write offset of the active file and index it -/
def put1 (s : SState) (r : Rec) : SState :=
  index1 { s with files := fileAppend s.files s.activeFid s.writeOff r, actualSize := s.actualSize + r.size, writeOff := s.writeOff + r.size }
    r ⟨r, s.activeFid, s.writeOff⟩

theorem writeCore_s (c1 : CommitSt) (r : Rec) (last : Bool) : ∃ ms, (writeCore c1 r last).s =
    match last with
    | false => { put1 c1.s (markLast r false) with metas := ms }
    | true => { lastTx (put1 c1.s (markLast r true)) r.txid c1.reserved with metas := ms } := by
  obtain ⟨s, res, tmp⟩ := c1
  cases last with
  | false => exact ⟨s.metas, by simp only [writeCore, put1, index1_eq, Bool.false_eq_true, if_false]; split <;> rfl⟩
  | true =>
    obtain ⟨t, ht⟩ : ∃ t, tmpUpdate tmp (markLast r true).key = some t := by
      unfold tmpUpdate; split <;> exact ⟨_, rfl⟩
    refine ⟨metaUpdate s.metas r.bucket t, ?_⟩
    simp only [writeCore, put1, index1_eq, if_true, ht]
    split <;> rfl

theorem put1_inv {s : SState} {cur : Option Nat} {res : List Nat} (h : SInv s cur res) (r : Rec) (hk : r.key ≠ [])
    (hcur : some r.txid = cur) : SInv (put1 s r) cur res := by
  obtain ⟨pre, fa, hfiles, hfid, hlt, hsegs, hact, hoff, htx, hkeys, hmark, hsorted, htorn⟩ := h.split
  have hfiles' : (put1 s r).files = pre ++ [{ fa with recs := fa.recs ++ [(s.writeOff, r)] }] := by
    show fileAppend s.files _ _ _ = _
    rw [hfiles, ← hfid]; exact fileAppend_last pre fa _ r (hfid ▸ hlt)
  refine ⟨⟨pre, _, hfiles', hfid, hlt, hsegs, ?_,
    forall_mem_snoc.mpr (show (∀ p ∈ fa.recs, p.1 < s.writeOff + r.size) ∧ s.writeOff < s.writeOff + r.size from
      ⟨fun p hp => by have := hoff p hp; omega, by have := size_pos r; omega⟩),
    forall_mem_snoc.mpr ⟨htx, Or.inr hcur⟩,
    forall_mem_snoc.mpr ⟨hkeys, hk⟩,
    forall_mem_snoc.mpr ⟨fun p hp => (hmark p hp).imp_left fun ⟨q, hq, hq'⟩ => ⟨q, List.mem_append_left _ hq, hq'⟩, Or.inr hcur⟩,
    pairwise_snoc.mpr ⟨hsorted, hoff⟩, htorn⟩, ?_, h.asc⟩
  · show _ = nmap (idxOf s.activeFid (fa.recs ++ [(s.writeOff, r)]) [])
    rw [idxOf_snoc]
    refine index1_nmap ?_ _ (s.writeOff, r) rfl
    exact hact
  · rw [hfiles']; exact wellFormed_append r (hfiles ▸ h.wf) hoff

theorem mem_lastTx (s : SState) (tid : Nat) (res : List Nat) (x : Nat) :
    x ∈ (lastTx s tid res).activeTx ↔ x ∈ s.activeTx ∨ x = tid := by
  show x ∈ (if s.activeTx.contains tid then s.activeTx else s.activeTx ++ [tid]) ↔ _
  split
  · rename_i hc
    exact ⟨Or.inl, fun h => h.elim id fun e => e ▸ by simpa using hc⟩
  · simp

/-- `buildTxIDRootIdx` on one sealed segment: the id of the transaction goes into the segments it sealed -/
theorem SegOk.close {g : Seg} {f : File} {tid : Nat} {res : List Nat} (h : SegOk g f (some tid) res) :
    SegOk (if res.contains g.fid && !g.txids.contains tid then { g with txids := g.txids ++ [tid] } else g) f none [] := by
  split
  · exact ⟨h.fid, h.content, h.bounds, fun p hp => Or.inl <| (h.tx p hp).elim (List.mem_append_left _)
      fun ⟨h1, _⟩ => by cases h1; simp⟩
  · rename_i hc
    refine ⟨h.fid, h.content, h.bounds, fun p hp => Or.inl <| (h.tx p hp).elim id fun ⟨h1, h2⟩ => ?_⟩
    cases h1
    simpa [h2] using hc

/-- the transaction in flight becomes a committed one, provided its commit mark is in the active file -/
theorem lastTx_inv {s : SState} {tid : Nat} {res : List Nat} (h : SInv s (some tid) res)
    (hm : ∀ fa, s.files.getLast? = some fa → ∃ q ∈ fa.recs, q.2.status = 1 ∧ q.2.txid = tid) :
    SInv (lastTx s tid res) none [] := by
  obtain ⟨pre, fa, hfiles, hfid, hlt, hsegs, hact, hoff, htx, hkeys, hmark, hsorted, htorn⟩ := h.split
  obtain ⟨q, hq, hq1, hq2⟩ := hm fa (by rw [hfiles, List.getLast?_concat])
  refine ⟨⟨pre, fa, hfiles, hfid, hlt, hsegs.map_left _ fun g f hgf => hgf.close, hact, hoff, fun p hp => ?_, hkeys,
    fun p hp => ?_, hsorted, htorn⟩, h.wf, ?_⟩
  · exact Or.inl ((mem_lastTx ..).mpr ((htx p hp).imp_right fun e => (Option.some.inj e)))
  · exact Or.inl ((hmark p hp).elim id fun e => ⟨q, hq, hq1, hq2.trans (Option.some.inj e).symm⟩)
  · show (s.sealed.map _).Pairwise _
    rw [List.pairwise_map]
    refine h.asc.imp fun {a b} hab => ?_
    have hf : ∀ g : Seg, (if res.contains g.fid && !g.txids.contains tid then { g with txids := g.txids ++ [tid] } else g).fid = g.fid :=
      fun g => by split <;> rfl
    rw [hf a, hf b]; exact hab

theorem writeCore_inv (c1 : CommitSt) (tid : Nat) (r : Rec) (last : Bool)
    (h : SInv c1.s (some tid) c1.reserved) (hb : ABounds c1.s) (htid : r.txid = tid) (hk : r.key ≠ []) :
    ABounds (writeCore c1 r last).s ∧ (writeCore c1 r last).s.seg = c1.s.seg ∧
    (writeCore c1 r last).reserved = c1.reserved ∧
    (if last then SInv (writeCore c1 r last).s none [] else SInv (writeCore c1 r last).s (some tid) c1.reserved) := by
  have m1 := Reopen.markLast_txid r last
  have hk1 : (markLast r last).key ≠ [] := Reopen.markLast_key r last ▸ hk
  have h1 := put1_inv h (markLast r last) hk1 (by rw [m1, htid])
  have hb1 : ABounds (put1 c1.s (markLast r last)) := by
    refine index1_bounds ?_ hk1 _
    exact hb
  obtain ⟨ms, e⟩ := writeCore_s c1 r last
  rw [e]
  cases last with
  | false => exact ⟨hb1, rfl, rfl, h1.metas ms⟩
  | true =>
    subst htid
    refine ⟨hb1, rfl, rfl, (lastTx_inv h1 fun fa hfa => ?_).metas ms⟩
    -- the record just written carries the commit mark
    obtain ⟨pre, fa0, hfiles, hfid, hlt, -⟩ := h.split
    change (fileAppend c1.s.files _ _ _).getLast? = _ at hfa
    rw [hfiles, ← hfid, fileAppend_last pre fa0 _ _ (hfid ▸ hlt), List.getLast?_concat] at hfa
    cases hfa
    exact ⟨_, List.mem_append_right _ (List.mem_singleton_self _), rfl, m1⟩

theorem writeRec_inv (c c' : CommitSt) (tid : Nat) (r : Rec) (last : Bool)
    (h : SInv c.s (some tid) c.reserved) (hb : ABounds c.s) (htid : r.txid = tid) (hk : r.key ≠ [])
    (hw : Sparse.writeRec c r last = some c') :
    ABounds c'.s ∧ c'.s.seg = c.s.seg ∧ (if last then SInv c'.s none [] else SInv c'.s (some tid) c'.reserved) := by
  rw [writeRec_eq] at hw
  obtain ⟨c1, hr, rfl⟩ := Option.map_eq_some_iff.mp hw
  split at hr
  · obtain ⟨i1, b1, s1⟩ := rotate_inv c c1 tid h hb hr
    obtain ⟨a1, a2, -, a4⟩ := writeCore_inv c1 tid r last i1 b1 htid hk
    exact ⟨a1, a2.trans s1, a4⟩
  · cases hr
    obtain ⟨a1, a2, -, a4⟩ := writeCore_inv c tid r last h hb htid hk
    exact ⟨a1, a2, a4⟩

/-- a write transaction of key/value records: one id, no empty key -/
def KVTx (tid : Nat) (recs : List Rec) : Prop := ∀ r ∈ recs, r.txid = tid ∧ r.key ≠ []

theorem commitLoop_inv (tid : Nat) : ∀ (recs : List Rec) (c c' : CommitSt), recs ≠ [] → KVTx tid recs →
    SInv c.s (some tid) c.reserved → ABounds c.s → Sparse.commitLoop c recs = some (c', true) →
    SInv c'.s none [] ∧ ABounds c'.s ∧ c'.s.seg = c.s.seg := by
  intro recs
  induction recs with
  | nil => intro c c' hne; exact absurd rfl hne
  | cons r rest ih =>
    intro c c' _ htx h hb hl
    simp only [Sparse.commitLoop] at hl
    split at hl
    · cases hl
    · split at hl
      · cases hl
      · rename_i c1 hw
        obtain ⟨a1, a2, a3⟩ := writeRec_inv c c1 tid r rest.isEmpty h hb (htx r (List.mem_cons_self ..)).1 (htx r (List.mem_cons_self ..)).2 hw
        cases rest with
        | nil =>
          simp only [Sparse.commitLoop, Option.some.injEq, Prod.mk.injEq, and_true] at hl
          exact hl ▸ ⟨a3, a1, a2⟩
        | cons r2 rest2 =>
          obtain ⟨b1, b2, b3⟩ := ih c1 c' (by simp) (fun x hx => htx x (List.mem_cons_of_mem _ hx)) a3 a1 hl
          exact ⟨b1, b2, b3.trans a2⟩

/-- the invariant between commits -/
def Good (s : SState) : Prop := SInv s none [] ∧ ABounds s

theorem sinv_weaken {s : SState} (h : SInv s none []) (tid : Nat) : SInv s (some tid) [] := by
  obtain ⟨pre, fa, a1, a2, a3, a4, a5, a6, a7, a8, a9, a10⟩ := h.split
  exact ⟨⟨pre, fa, a1, a2, a3, a4.imp (fun g f hgf => hgf.imp fun _ h1 => nomatch h1), a5, a6,
    fun p hp => (a7 p hp).imp_right nofun, a8, fun p hp => (a9 p hp).imp_right nofun, a10⟩, h.wf, h.asc⟩

theorem commit_inv (s : SState) (recs : List Rec) (tid : Nat) (h : Good s) (hne : recs ≠ []) (htx : KVTx tid recs)
    (hok : (Sparse.commit s recs).2 = .ok ()) : Good (Sparse.commit s recs).1 ∧ (Sparse.commit s recs).1.seg = s.seg := by
  unfold Sparse.commit at hok ⊢
  have hemp : recs.isEmpty = false := by simpa using hne
  simp only [hemp, Bool.false_eq_true, if_false] at hok ⊢
  split at hok
  · cases hok
  · rename_i c' hl
    obtain ⟨a1, a2, a3⟩ := commitLoop_inv tid recs { s := s } c' hne htx (sinv_weaken h.1 tid) h.2 hl
    exact ⟨⟨a1, a2⟩, a3⟩
  · cases hok

theorem good_init (seg : Nat) : Good (Sparse.openDB seg [] [] []).1 := by
  refine ⟨⟨⟨[], { fid := 0, recs := [] }, rfl, rfl, nofun, All2.nil, rfl, nofun, nofun, nofun, nofun, .nil, rfl⟩, ?_, .nil⟩,
    abounds_empty rfl⟩
  exact wellFormed_new (fs := []) ⟨.nil, nofun⟩ nofun

/-! ### a clean reopen keeps the invariant -/

theorem lt_fileEnd (f : File) (h : f.recs.Pairwise (fun a b => a.1 < b.1)) : ∀ p ∈ f.recs, p.1 < fileEnd f := by
  intro p hp
  obtain ⟨q, hq, hpq⟩ := fileEnd_last h hp
  have := size_pos q.2
  rcases hpq with rfl | hlt <;> omega

/-- the loop of `Open` that rebuilds the active tree from the records of committed transactions -/
def openStep (ids : List Nat) (fid : Nat) (s : SState) (x : Nat × Rec) : SState :=
  if ids.contains x.2.txid && x.2.ds == dsKV then treeInsert s (newKey x.2) ⟨{ x.2 with status := 1 }, fid, x.1⟩ else s

/-- what holds of every state that differs from `t` in the tree only, the tree being the index of the records,
holds of the state the loop ends in -/
theorem openFold_spec (ids : List Nat) (fid : Nat) {P : SState → Prop} : ∀ (L done : List (Nat × Rec)) (t : SState),
    (∀ x ∈ L, ids.contains x.2.txid = true) → (∀ x ∈ L, x.2.key ≠ []) →
    nmap t.active = nmap (idxOf fid done []) → ABounds t →
    (∀ a f l, nmap a = nmap (idxOf fid (done ++ L) []) → ABounds { t with active := a, first := f, last := l } →
      P { t with active := a, first := f, last := l }) →
    P (L.foldl (openStep ids fid) t) := by
  intro L
  induction L with
  | nil => intro done t _ _ ht hb hP; exact hP _ _ _ (by rwa [List.append_nil]) hb
  | cons x rest ih =>
    intro done t hids hkeys ht hb hP
    obtain ⟨hx, hids'⟩ := List.forall_mem_cons.mp hids
    obtain ⟨hk, hkeys'⟩ := List.forall_mem_cons.mp hkeys
    have hstep : openStep ids fid t x = index1 t x.2 ⟨{ x.2 with status := 1 }, fid, x.1⟩ := by
      simp only [openStep, index1_eq, hx, Bool.true_and]
    refine ih (done ++ [x]) (openStep ids fid t x) hids' hkeys' (by rw [hstep, idxOf_snoc]; exact index1_nmap ht fid x rfl)
      (hstep ▸ index1_bounds hb hk _) fun a f l ha hb' => ?_
    rw [hstep] at hb' ⊢
    exact hP a f l (by rwa [List.append_assoc] at ha) hb'

theorem reopen_good (s : SState) (h : Good s) (seg' : Nat) : Good (Sparse.openDB seg' s.files s.sealed s.metas).1 := by
  obtain ⟨hinv, -⟩ := h
  obtain ⟨pre, fa, hfiles, hfid, hlt, hsegs, -, -, -, hkeys, hmark, hsorted, htorn⟩ := hinv.split
  have hfa : fa ∈ s.files := by rw [hfiles]; simp
  have hmax : (s.files.map (·.fid)).foldl max 0 = fa.fid := by rw [hfiles]; exact maxFid_snoc pre fa (hfid ▸ hlt)
  have hmarked : ∀ x ∈ fa.recs, (((fa.recs.filter fun y => y.2.status == 1).map fun y => y.2.txid).contains x.2.txid) = true := by
    intro x hx
    obtain ⟨q, hq, h1, h2⟩ := (hmark x hx).resolve_right nofun
    simp only [List.contains_iff_mem, List.mem_map, List.mem_filter]
    exact ⟨q, ⟨hq, by simp [h1]⟩, h2⟩
  have hsealed : s.sealed.filter (·.fid < fa.fid) = s.sealed := by
    refine List.filter_eq_self.mpr fun g hg => ?_
    obtain ⟨f, hf, hgf⟩ := hsegs.mem_left g hg
    simpa [hgf.fid, hfid] using hlt f hf
  unfold Sparse.openDB
  simp only [hmax, fileEnsure_of_mem _ _ hfa, Hints.fileGet_of_mem hinv.wf.1 hfa, Option.getD_some, htorn,
    Bool.false_eq_true, if_false, hsealed]
  refine openFold_spec (P := Good) _ fa.fid fa.recs [] _ hmarked hkeys rfl (abounds_empty rfl) fun a f l ha hb => ?_
  refine ⟨⟨⟨pre, fa, hfiles, rfl, hfid ▸ hlt, hsegs, ha, lt_fileEnd fa hsorted, fun p hp => Or.inl ?_, hkeys, hmark,
    hsorted, htorn⟩, hinv.wf, hinv.asc⟩, hb⟩
  simpa [List.mem_eraseDups] using hmarked p hp

end NutsProofs.SparseGet
