/-
  NutsProofs.Lemmas.Codec — little-endian integers, `copy`/slice algebra, `ReadAt` on concatenations, and the
  header codec that is defined from a layout table: reading a field back from an encoded header returns the
  value written, for **every** table whose fields are pairwise disjoint and inside the header.
-/
import Nuts.Model.Codec
namespace NutsProofs.Codec
open Nuts Nuts.Model.Codec

/-! ### little-endian -/

@[simp] theorem leBytes_length (w v : Nat) : (leBytes w v).length = w := by
  induction w generalizing v with
  | zero => rfl
  | succ w ih => simp [leBytes, ih]

theorem leVal_leBytes (w v : Nat) (h : v < 256 ^ w) : leVal (leBytes w v) = v := by
  induction w generalizing v with
  | zero => simp [leBytes, leVal]; simp at h; omega
  | succ w ih =>
    have h1 : v / 256 < 256 ^ w := by
      apply Nat.div_lt_of_lt_mul
      rw [Nat.pow_succ, Nat.mul_comm] at h
      exact h
    have h2 : (UInt8.ofNat (v % 256)).toNat = v % 256 := by
      simp [UInt8.toNat_ofNat']
    simp only [leBytes, leVal, ih _ h1, h2]
    omega

theorem leVal_lt (b : Bytes) : leVal b < 256 ^ b.length := by
  induction b with
  | nil => simp [leVal]
  | cons x r ih =>
    have hx : x.toNat < 256 := x.toNat_lt
    simp only [leVal, List.length_cons, Nat.pow_succ]
    omega

theorem leBytes_leVal (b : Bytes) : leBytes b.length (leVal b) = b := by
  induction b with
  | nil => rfl
  | cons x r ih =>
    have hx : x.toNat < 256 := x.toNat_lt
    have h1 : (x.toNat + 256 * leVal r) % 256 = x.toNat := by omega
    have h2 : (x.toNat + 256 * leVal r) / 256 = leVal r := by omega
    simp only [leVal, List.length_cons, leBytes, h1, h2, ih, UInt8.ofNat_toNat]

theorem leVal_inj {a b : Bytes} (hl : a.length = b.length) (h : leVal a = leVal b) : a = b := by
  rw [← leBytes_leVal a, ← leBytes_leVal b, hl, h]

/-! ### `copy` and slices -/

theorem writeAt_append (A B : Bytes) (lo : Nat) (data : Bytes) (h : lo + data.length ≤ A.length) :
    writeAt (A ++ B) lo data = writeAt A lo data ++ B := by
  simp only [writeAt, List.take_append_of_le_length (Nat.le_of_add_right_le h), List.drop_append_of_le_length h,
    List.append_assoc]

theorem writeAt_tail (A B data : Bytes) (h : data.length = B.length) : writeAt (A ++ B) A.length data = A ++ data := by
  simp [writeAt, h]

theorem writeAt_zero (A data : Bytes) : writeAt A 0 data = data ++ A.drop data.length := by
  simp [writeAt]

@[simp] theorem writeAt_length (buf : Bytes) (lo : Nat) (data : Bytes) (h : lo + data.length ≤ buf.length) :
    (writeAt buf lo data).length = buf.length := by
  unfold writeAt
  simp
  omega

theorem slice_writeAt_same (buf : Bytes) (lo : Nat) (data : Bytes) (h : lo + data.length ≤ buf.length) :
    slice (writeAt buf lo data) lo (lo + data.length) = data := by
  unfold slice writeAt
  rw [List.append_assoc, List.drop_left' (List.length_take_of_le (Nat.le_of_add_right_le h)), Nat.add_sub_cancel_left,
    List.take_left' rfl]

theorem slice_writeAt_disj (buf : Bytes) (lo : Nat) (data : Bytes) (lo' hi' : Nat) (h : lo + data.length ≤ buf.length)
    (hd : hi' ≤ lo ∨ lo + data.length ≤ lo') : slice (writeAt buf lo data) lo' hi' = slice buf lo' hi' := by
  have hl : (buf.take lo).length = lo := List.length_take_of_le (Nat.le_of_add_right_le h)
  unfold slice writeAt
  rcases hd with hd | hd
  · -- the slice lies inside `buf[:lo]`, which `copy` leaves alone
    rw [← List.drop_take, ← List.drop_take, List.append_assoc, List.take_append_of_le_length (by omega),
      List.take_take, Nat.min_eq_left hd]
  · -- the slice lies behind the copied bytes
    obtain ⟨d, rfl⟩ := Nat.exists_eq_add_of_le hd
    have hl2 : (buf.take lo ++ data).length = lo + data.length := by rw [List.length_append, hl]
    rw [← List.drop_drop (i := d) (j := lo + data.length), ← List.drop_drop (i := d) (j := lo + data.length),
      List.drop_left' hl2]

theorem slice_append_left (a b : Bytes) (lo hi : Nat) (h : hi ≤ a.length) : slice (a ++ b) lo hi = slice a lo hi := by
  unfold slice
  rw [← List.drop_take, ← List.drop_take, List.take_append_of_le_length h]

theorem slice_alter (A B : Bytes) (x y : UInt8) (lo hi : Nat) (h : hi ≤ A.length ∨ A.length < lo) :
    slice (A ++ y :: B) lo hi = slice (A ++ x :: B) lo hi := by
  have hw : A ++ y :: B = writeAt (A ++ x :: B) A.length [y] := by simp [writeAt]
  rw [hw]
  exact slice_writeAt_disj _ _ _ _ _ (by simp) h

/-! ### `ReadAt`: the file as a concatenation, the offset as the length of what precedes.
With these three rewriting rules a sequence of reads at growing offsets walks along `A ++ (p ++ (q ++ …))`. -/

theorem readN_append_add (mm : Bool) (A F : Bytes) (off n : Nat) :
    readN mm (A ++ F) (A.length + off) n = readN mm F off n := by
  have hd : (A ++ F).drop (A.length + off) = F.drop off := by simp
  simp only [readN, hd, List.length_append, Nat.add_left_cancel_iff, Nat.add_le_add_iff_left, ge_iff_le, Nat.add_assoc]

theorem readN_append_length (mm : Bool) (A F : Bytes) (n : Nat) : readN mm (A ++ F) A.length n = readN mm F 0 n :=
  readN_append_add mm A F 0 n

/-- both access modes, the empty read at the very end of an mmap included -/
theorem readN_zero_length (mm : Bool) (p B : Bytes) : readN mm (p ++ B) 0 p.length = some p := by
  unfold readN
  cases p with
  | nil => cases mm <;> cases B <;> simp
  | cons x p => simp

/-! ### header fields -/

abbrev Field := String × Nat × Nat × Nat

/-- the slice has the width of the integer written into it and lies inside `n` bytes -/
def FieldOK (n : Nat) (f : Field) : Prop := f.2.1 + f.2.2.2 = f.2.2.1 ∧ f.2.2.1 ≤ n
def Disj (f g : Field) : Prop := f.2.2.1 ≤ g.2.1 ∨ g.2.2.1 ≤ f.2.1

instance (n : Nat) (f : Field) : Decidable (FieldOK n f) := by unfold FieldOK; exact inferInstance
instance (f g : Field) : Decidable (Disj f g) := by unfold Disj; exact inferInstance

theorem putFields_cons (f : Field) (L : Layout) (vals : Vals) (buf : Bytes) :
    putFields (f :: L) vals buf = putFields L vals (writeAt buf f.2.1 (leBytes f.2.2.2 (valOf vals f.1))) := rfl

theorem FieldOK.fits {n : Nat} {f : Field} (h : FieldOK n f) (v : Nat) : f.2.1 + (leBytes f.2.2.2 v).length ≤ n := by
  rw [leBytes_length, h.1]; exact h.2

theorem putFields_length (L : Layout) (vals : Vals) (buf : Bytes) (hok : ∀ f ∈ L, FieldOK buf.length f) :
    (putFields L vals buf).length = buf.length := by
  induction L generalizing buf with
  | nil => rfl
  | cons f L ih =>
    have hw := writeAt_length buf _ _ ((hok f (by simp)).fits (valOf vals f.1))
    rw [putFields_cons, ih _ (by intro g hg; rw [hw]; exact hok g (by simp [hg])), hw]

theorem putFields_append (L : Layout) (vals : Vals) (A B : Bytes) (hok : ∀ f ∈ L, FieldOK A.length f) :
    putFields L vals (A ++ B) = putFields L vals A ++ B := by
  induction L generalizing A with
  | nil => rfl
  | cons f L ih =>
    have hf := (hok f (by simp)).fits (valOf vals f.1)
    rw [putFields_cons, putFields_cons, writeAt_append _ _ _ _ hf, ih]
    rw [writeAt_length _ _ _ hf]
    exact fun g hg => hok g (by simp [hg])

theorem slice_putFields_other (L : Layout) (vals : Vals) (buf : Bytes) (lo hi : Nat)
    (hok : ∀ f ∈ L, FieldOK buf.length f) (hd : ∀ f ∈ L, f.2.2.1 ≤ lo ∨ hi ≤ f.2.1) :
    slice (putFields L vals buf) lo hi = slice buf lo hi := by
  induction L generalizing buf with
  | nil => rfl
  | cons f L ih =>
    have hf := hok f (by simp)
    have hb := hf.fits (valOf vals f.1)
    have hw := writeAt_length buf f.2.1 _ hb
    rw [putFields_cons, ih _ (by intro g hg; rw [hw]; exact hok g (by simp [hg])) (by intro g hg; exact hd g (by simp [hg]))]
    apply slice_writeAt_disj _ _ _ _ _ hb
    have := hd f (by simp)
    rw [leBytes_length, hf.1]
    omega

theorem slice_putFields_mem (L : Layout) (vals : Vals) (buf : Bytes)
    (hok : ∀ f ∈ L, FieldOK buf.length f) (hpw : L.Pairwise Disj) (f : Field) (hf : f ∈ L) :
    slice (putFields L vals buf) f.2.1 f.2.2.1 = leBytes f.2.2.2 (valOf vals f.1) := by
  induction L generalizing buf with
  | nil => cases hf
  | cons g L ih =>
    have hg := hok g (by simp)
    have hb := hg.fits (valOf vals g.1)
    have hw := writeAt_length buf g.2.1 _ hb
    have hok' : ∀ f ∈ L, FieldOK (writeAt buf g.2.1 (leBytes g.2.2.2 (valOf vals g.1))).length f := by
      intro x hx; rw [hw]; exact hok x (by simp [hx])
    rw [List.pairwise_cons] at hpw
    rw [putFields_cons]
    rcases List.mem_cons.mp hf with rfl | hfl
    · rw [slice_putFields_other L vals _ f.2.1 f.2.2.1 hok' (fun x hx => Or.symm (hpw.1 x hx))]
      have := slice_writeAt_same buf f.2.1 _ hb
      rwa [leBytes_length, hg.1] at this
    · exact ih _ hok' hpw.2 hfl

theorem valOf_cons_ne (n m : String) (v : Nat) (rest : Vals) (h : n ≠ m) : valOf ((n, v) :: rest) m = valOf rest m := by
  simp [valOf, h]

theorem valOf_cons_eq (n : String) (v : Nat) (rest : Vals) : valOf ((n, v) :: rest) n = v := by
  simp [valOf]

theorem valOf_of_mem {V : Vals} (hnd : (V.map (·.1)).Nodup) {n : String} {v : Nat} (h : (n, v) ∈ V) : valOf V n = v := by
  induction V with
  | nil => cases h
  | cons p V ih =>
    obtain ⟨m, w⟩ := p
    rw [List.map_cons, List.nodup_cons] at hnd
    rcases List.mem_cons.mp h with heq | hmem
    · cases heq; exact valOf_cons_eq n v V
    · rw [valOf_cons_ne m n w V (fun hmn => hnd.1 (hmn ▸ List.mem_map_of_mem (f := (·.1)) hmem)), ih hnd.2 hmem]

/-- a lookup settled by the position of the name, without comparing names -/
theorem valOf_at {V : Vals} (hnd : (V.map (·.1)).Nodup) (i : Nat) {n : String} {v : Nat} (h : V[i]? = some (n, v)) :
    valOf V n = v :=
  valOf_of_mem hnd (List.mem_of_getElem? h)

end NutsProofs.Codec
