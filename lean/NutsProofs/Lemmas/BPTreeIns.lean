/-
  NutsProofs.Lemmas.BPTreeIns — insertion into the B+ tree: the leaf chain of the result is the sorted
  insertion into the leaf chain, and well-formedness is preserved, leaf and inner splits included.
-/
import NutsProofs.Lemmas.BPTree
namespace NutsProofs.BPT
open Nuts Nuts.Model.BPTree Nuts.Model.DB

variable {α : Type}

theorem allLt_trans {ks : List Bytes} {s s' : Bytes} (h : AllLt s ks) (hs : bcmp s s' = .lt) : AllLt s' ks :=
  fun x hx => bcmp_lt_trans (h x hx) hs

/-! ### sorted insertion into a list -/

theorem leafInsert_append_below (a b : List (Bytes × α)) (k : Bytes) (v : α) (ha : ∀ p ∈ a, bcmp p.1 k = .lt) :
    leafInsert (a ++ b) k v = a ++ leafInsert b k v := by
  induction a with
  | nil => rfl
  | cons p rest ih =>
    have hp : bcmp k p.1 = .gt := (bcmp_gt_iff_lt _ _).mpr (ha p (by simp))
    simp [leafInsert, hp, ih fun q hq => ha q (by simp [hq])]

theorem leafInsert_append_above (a b : List (Bytes × α)) (k : Bytes) (v : α) (hb : ∀ p ∈ b, bcmp k p.1 = .lt) :
    leafInsert (a ++ b) k v = leafInsert a k v ++ b := by
  induction a with
  | nil => cases b with
    | nil => rfl
    | cons q _ => simp [leafInsert, hb q (by simp)]
  | cons p rest ih => simp only [List.cons_append, leafInsert, ih]; split <;> rfl

theorem mem_leafInsert (l : List (Bytes × α)) (k : Bytes) (v : α) (p : Bytes × α) :
    p ∈ leafInsert l k v ↔ p = (k, v) ∨ p ∈ l := by
  induction l with
  | nil => simp [leafInsert]
  | cons q rest ih => simp only [leafInsert]; split <;> simp [ih, or_left_comm]

theorem upsert_eq_leafInsert (l : List (Bytes × α)) (k : Bytes) (v : α) (h : ∀ p ∈ l, bcmp k p.1 ≠ .eq) :
    upsert l k v = leafInsert l k v := by
  induction l with
  | nil => rfl
  | cons q rest ih =>
    simp only [upsert, leafInsert]
    cases hc : bcmp k q.1 with
    | lt => simp
    | eq => exact absurd hc (h q (by simp))
    | gt => simp [ih fun p hp => h p (by simp [hp])]

/-! ### a split: what goes up is above the left half and not above the right half -/

theorem mkLeaf_spec (kvs : List (Bytes × α)) (hne : kvs ≠ []) (hs : Sorted kvs) :
    (mkLeaf kvs).toList = kvs ∧ (mkLeaf kvs).WF ∧ (∀ x ∈ (mkLeaf kvs).keys, x ∈ kvs.map (·.1)) := by
  unfold mkLeaf
  split
  · exact ⟨rfl, ⟨hne, hs⟩, fun x hx => hx⟩
  · rename_i hlen
    dsimp only
    split
    · exact ⟨rfl, ⟨hne, hs⟩, fun x hx => hx⟩
    · rename_i p rest hdrop
      have hsplit : kvs.take 4 ++ kvs.drop 4 = kvs := List.take_append_drop 4 kvs
      have hpm : p ∈ kvs.drop 4 := by simp [hdrop]
      obtain ⟨hl, hr, hlr⟩ := List.pairwise_append.mp (show Sorted (kvs.take 4 ++ kvs.drop 4) by rw [hsplit]; exact hs)
      refine ⟨hsplit, ⟨⟨?_, hl⟩, ⟨List.ne_nil_of_mem hpm, hr⟩, ?_, ?_⟩, ?_⟩
      · intro h
        have := congrArg List.length h
        simp only [List.length_take, List.length_nil, maxKeys] at this hlen
        omega
      · simp only [Node.keys, AllLt, List.forall_mem_map]
        exact fun q hq => hlr q hq p hpm
      · simp only [Node.keys, AllGe, List.forall_mem_map, hdrop, List.forall_mem_cons, bcmp_refl]
        rw [hdrop] at hr
        exact ⟨by simp, fun q hq => Std.OrientedCmp.not_lt_of_lt ((sorted_cons.mp hr).1 q hq)⟩
      · simp only [Ins.keys, Node.keys, List.mem_append, List.mem_cons, List.mem_map]
        rintro x (⟨q, hq, rfl⟩ | rfl | ⟨q, hq, rfl⟩)
        · exact ⟨q, List.mem_of_mem_take hq, rfl⟩
        · exact ⟨p, List.mem_of_mem_drop hpm, rfl⟩
        · exact ⟨q, List.mem_of_mem_drop hq, rfl⟩

theorem ofPairs_toPairs : (r : Rest α) → Rest.ofPairs r.toPairs = r
  | .nil => rfl
  | .cons sep child tl => by simp [Rest.toPairs, Rest.ofPairs, ofPairs_toPairs tl]

theorem toPairs_length : (r : Rest α) → r.toPairs.length = r.length
  | .nil => rfl
  | .cons _ _ tl => by simp [Rest.toPairs, Rest.length, toPairs_length tl]

theorem ofPairs_append_toList (a b : List (Bytes × Node α)) :
    (Rest.ofPairs (a ++ b)).toList = (Rest.ofPairs a).toList ++ (Rest.ofPairs b).toList := by
  induction a with
  | nil => simp [Rest.ofPairs, Rest.toList]
  | cons p rest ih => simp [Rest.ofPairs, Rest.toList, ih]

theorem ofPairs_append_keys (a b : List (Bytes × Node α)) :
    (Rest.ofPairs (a ++ b)).keys = (Rest.ofPairs a).keys ++ (Rest.ofPairs b).keys := by
  induction a with
  | nil => simp [Rest.ofPairs, Rest.keys]
  | cons p rest ih => simp [Rest.ofPairs, Rest.keys, ih]

theorem Node.keys_ne_nil : (n : Node α) → n.WF → n.keys ≠ []
  | .leaf kvs, h => by simpa [Node.keys] using h.1
  | .inner c0 rest, h => by simpa [Node.keys] using fun h0 => absurd h0 (Node.keys_ne_nil c0 h.1)

theorem sep_lt {c : Node α} (hc : c.WF) {sep s : Bytes} (hge : AllGe sep c.keys) (hlt : AllLt s c.keys) :
    bcmp sep s = .lt := by
  obtain ⟨x, hx⟩ := List.exists_mem_of_ne_nil _ (Node.keys_ne_nil c hc)
  exact bcmp_lt_of_ge_of_lt (hge x hx) (hlt x hx)

theorem cut_wf {up : Bytes} {rc0 : Node α} {post : List (Bytes × Node α)} :
    (pre : List (Bytes × Node α)) → (c0 : Node α) → (Node.inner c0 (Rest.ofPairs (pre ++ (up, rc0) :: post))).WF →
    (Node.inner c0 (Rest.ofPairs pre)).WF ∧ AllLt up (Node.inner c0 (Rest.ofPairs pre)).keys ∧
      (Rest.cons up rc0 (Rest.ofPairs post)).WF
  | [], c0, ⟨h0, hcons, hb⟩ =>
    ⟨⟨h0, trivial, nofun⟩, by simpa [Rest.ofPairs, Node.keys, Rest.keys] using hb up rfl, hcons⟩
  | (s, c) :: pre, c0, ⟨h0, ⟨hc, hge, ht, hb⟩, hlt⟩ => by
    obtain ⟨hw, hup, hcons⟩ := cut_wf pre c ⟨hc, ht, fun s' hs' => (hb s' hs').1⟩
    have hsup : bcmp s up = .lt := sep_lt hc hge fun x hx => hup x (List.mem_append_left _ hx)
    refine ⟨?_, ?_, hcons⟩
    · refine ⟨h0, ⟨hc, hge, hw.2.1, fun s' hs' => ⟨hw.2.2 s' hs', ?_⟩⟩, hlt⟩
      cases pre with
      | nil => cases hs'
      | cons q _ => exact (hb s' hs').2
    · intro x hx
      rcases List.mem_append.mp hx with hx | hx
      · exact allLt_trans (hlt s rfl) hsup x hx
      · rcases List.mem_cons.mp hx with rfl | hx
        · exact hsup
        · exact hup x hx

/-- a split puts the 5th separator up -/
theorem mkInner_spec (c0 : Node α) (rest : Rest α) (h0 : c0.WF) (hr : rest.WF)
    (hb : ∀ s, Rest.firstSep rest = some s → AllLt s c0.keys) :
    (mkInner c0 rest).toList = c0.toList ++ rest.toList ∧ (mkInner c0 rest).WF ∧
    (∀ x ∈ (mkInner c0 rest).keys, x ∈ c0.keys ++ rest.keys) := by
  unfold mkInner
  split
  · exact ⟨rfl, ⟨h0, hr, hb⟩, fun x hx => hx⟩
  · dsimp only
    split
    · exact ⟨rfl, ⟨h0, hr, hb⟩, fun x hx => hx⟩
    · rename_i up rc0 rrest hdrop
      have hrest : rest = Rest.ofPairs (rest.toPairs.take 4 ++ (up, rc0) :: rrest) := by
        rw [← hdrop, List.take_append_drop, ofPairs_toPairs]
      obtain ⟨hl, hup, hcons⟩ := cut_wf _ c0 (by rw [← hrest]; exact ⟨h0, hr, hb⟩)
      have hge := (Rest.sorted _ hcons).2 up rfl
      refine ⟨?_, ⟨hl, ⟨hcons.1, hcons.2.2.1, fun s hs => (hcons.2.2.2 s hs).1⟩, hup, fun x hx => hge x ?_⟩, fun x hx => ?_⟩
      · rw [congrArg Rest.toList hrest]
        simp [Ins.toList, Node.toList, ofPairs_append_toList, Rest.ofPairs, Rest.toList]
      · simp only [Rest.keys, List.mem_cons]; exact Or.inr hx
      · rw [congrArg Rest.keys hrest]
        simpa [Ins.keys, Node.keys, ofPairs_append_keys, Rest.ofPairs, Rest.keys, or_assoc] using hx

/-! ### an insertion result in the place of the child it was made from

`Node.ins` and `Rest.ins` put the result of the insertion into a child back where the child was: as one child,
or, after a split, as two with the new separator between them. -/

/-- in the place of the first child of an inner node (which may overflow in its turn) -/
def Ins.inner : Ins α → Rest α → Ins α
  | .one c, rest => .one (.inner c rest)
  | .split l s r, rest => mkInner l (.cons s r rest)

/-- in the place of the child after the separator `sep` -/
def Ins.cons (sep : Bytes) : Ins α → Rest α → Rest α
  | .one c, tl => .cons sep c tl
  | .split l s r, tl => .cons sep l (.cons s r tl)

theorem Node.ins_inner (c0 : Node α) (rest : Rest α) (k : Bytes) (v : α) : (Node.inner c0 rest).ins k v =
    match rest.ins k v with | some rest' => mkInner c0 rest' | none => Ins.inner (c0.ins k v) rest := by
  simp only [Node.ins]
  cases rest.ins k v with
  | some _ => rfl
  | none => cases c0.ins k v <;> rfl

theorem Rest.ins_cons (sep : Bytes) (child : Node α) (tl : Rest α) (k : Bytes) (v : α) :
    (Rest.cons sep child tl).ins k v = if bcmp k sep == .lt then none else
      match tl.ins k v with | some tl' => some (.cons sep child tl') | none => some (Ins.cons sep (child.ins k v) tl) := by
  simp only [Rest.ins]
  cases tl.ins k v with
  | some _ => rfl
  | none => cases child.ins k v <;> rfl

theorem Ins.inner_spec {i : Ins α} {rest : Rest α} (hi : i.WF) (hr : rest.WF)
    (hb : ∀ s, Rest.firstSep rest = some s → AllLt s i.keys) :
    (Ins.inner i rest).toList = i.toList ++ rest.toList ∧ (Ins.inner i rest).WF ∧
    (∀ x ∈ (Ins.inner i rest).keys, x ∈ i.keys ++ rest.keys) := by
  cases i with
  | one c => exact ⟨rfl, ⟨hi, hr, hb⟩, fun x hx => hx⟩
  | split l s r =>
    obtain ⟨hl, hrw, hlt, hge⟩ := hi
    obtain ⟨h1, h2, h3⟩ := mkInner_spec l (.cons s r rest) hl
      ⟨hrw, hge, hr, fun s' hs' => ⟨fun x hx => hb s' hs' x (by simp [Ins.keys, hx]), hb s' hs' s (by simp [Ins.keys])⟩⟩
      (by rintro _ ⟨⟩; exact hlt)
    exact ⟨h1.trans (List.append_assoc ..).symm, h2, fun x hx => by
      simpa only [Ins.keys, Rest.keys, List.append_assoc, List.cons_append] using h3 x hx⟩

theorem Ins.cons_spec {i : Ins α} {sep : Bytes} {tl : Rest α} (hi : i.WF) (hge : AllGe sep i.keys) (ht : tl.WF)
    (hb : ∀ s, Rest.firstSep tl = some s → AllLt s i.keys ∧ bcmp sep s = .lt) :
    (Ins.cons sep i tl).toList = i.toList ++ tl.toList ∧ (Ins.cons sep i tl).WF ∧
    (Ins.cons sep i tl).keys = sep :: (i.keys ++ tl.keys) ∧ Rest.firstSep (Ins.cons sep i tl) = some sep := by
  cases i with
  | one c => exact ⟨rfl, ⟨hi, hge, ht, hb⟩, rfl, rfl⟩
  | split l s r =>
    obtain ⟨hl, hrw, hlt, hgs⟩ := hi
    simp only [Ins.keys] at hge hb
    refine ⟨by simp [Ins.cons, Ins.toList, Rest.toList], ?_, by simp [Ins.cons, Ins.keys, Rest.keys], rfl⟩
    refine ⟨hl, fun x hx => hge x (by simp [hx]), ⟨hrw, hgs, ht, fun s' hs' => ?_⟩, ?_⟩
    · exact ⟨fun x hx => (hb s' hs').1 x (by simp [hx]), (hb s' hs').1 s (by simp)⟩
    · rintro _ ⟨⟩
      exact ⟨hlt, sep_lt hl (fun x hx => hge x (by simp [hx])) hlt⟩

/-! ### insertion -/

def InsSpec (n : Node α) (k : Bytes) (v : α) (r : Ins α) : Prop :=
  r.toList = leafInsert n.toList k v ∧ r.WF ∧ (∀ x ∈ r.keys, x = k ∨ x ∈ n.keys)

def RestSpec (r : Rest α) (k : Bytes) (v : α) (r' : Rest α) : Prop :=
  (∃ s, Rest.firstSep r = some s ∧ bcmp k s ≠ .lt) ∧ Rest.firstSep r' = Rest.firstSep r ∧
  r'.toList = leafInsert r.toList k v ∧ r'.WF ∧ (∀ x ∈ r'.keys, x = k ∨ x ∈ r.keys)

mutual
theorem Node.ins_spec : (n : Node α) → n.WF → ∀ k v, (∀ p ∈ n.toList, bcmp k p.1 ≠ .eq) → InsSpec n k v (n.ins k v)
  | .leaf kvs, h, k, v, hk => by
    obtain ⟨h1, h2, h3⟩ := mkLeaf_spec (leafInsert kvs k v) (List.ne_nil_of_mem ((mem_leafInsert kvs k v (k, v)).mpr (Or.inl rfl)))
      (upsert_eq_leafInsert kvs k v hk ▸ upsert_sorted kvs k v h.2)
    refine ⟨h1, h2, fun x hx => ?_⟩
    obtain ⟨q, hq, rfl⟩ := List.mem_map.mp (h3 x hx)
    exact ((mem_leafInsert kvs k v q).mp hq).imp (congrArg Prod.fst) fun hq => List.mem_map_of_mem hq
  | .inner c0 rest, ⟨h0, hr, hb⟩, k, v, hk => by
    simp only [Node.toList, List.forall_mem_append] at hk
    have hrs := Rest.ins_spec rest hr k v hk.2
    rw [Node.ins_inner]
    cases hri : rest.ins k v with
    | some rest' =>
      obtain ⟨⟨s, hs, hks⟩, hfs, htl, hwf, hkeys⟩ := hrs.2 rest' hri
      obtain ⟨h1, h2, h3⟩ := mkInner_spec c0 rest' h0 hwf (hfs ▸ hb)
      refine ⟨?_, h2, fun x hx => ?_⟩
      · rw [h1, htl, Node.toList, leafInsert_append_below _ _ _ _ (Node.below (hb s hs) hks)]
      · simp only [Node.keys, List.mem_append] at h3 ⊢
        exact (h3 x hx).elim (fun h => Or.inr (Or.inl h)) fun h => (hkeys x h).imp_right Or.inr
    | none =>
      have hlt := hrs.1 hri
      obtain ⟨hctl, hcwf, hckeys⟩ := Node.ins_spec c0 h0 k v hk.1
      obtain ⟨h1, h2, h3⟩ := Ins.inner_spec hcwf hr fun s hs x hx =>
        (hckeys x hx).elim (fun h => h ▸ hlt s hs) (hb s hs x)
      refine ⟨?_, h2, fun x hx => ?_⟩
      · rw [h1, hctl, Node.toList, leafInsert_append_above _ _ _ _ (Rest.above hr hlt)]
      · simp only [Node.keys, List.mem_append] at h3 ⊢
        exact (h3 x hx).elim (fun h => (hckeys x h).imp_right Or.inl) fun h => Or.inr (Or.inr h)
theorem Rest.ins_spec : (r : Rest α) → r.WF → ∀ k v, (∀ p ∈ r.toList, bcmp k p.1 ≠ .eq) →
    (r.ins k v = none → ∀ s, Rest.firstSep r = some s → bcmp k s = .lt) ∧
    (∀ r', r.ins k v = some r' → RestSpec r k v r')
  | .nil, _, k, v, _ => by simp [Rest.ins, Rest.firstSep]
  | .cons sep child tl, ⟨hc, hge, ht, hb⟩, k, v, hk => by
    simp only [Rest.toList, List.forall_mem_append] at hk
    rw [Rest.ins_cons]
    by_cases hlt : bcmp k sep = .lt
    · simp [hlt, Rest.firstSep]
    · have hts := Rest.ins_spec tl ht k v hk.2
      simp only [beq_iff_eq, hlt, if_false]
      cases hti : tl.ins k v with
      | some tl' =>
        obtain ⟨⟨s, hs, hks⟩, hfs, htl, hwf, hkeys⟩ := hts.2 tl' hti
        refine spec_of_some ⟨⟨sep, rfl, hlt⟩, rfl, ?_, ⟨hc, hge, hwf, hfs ▸ hb⟩, fun x hx => ?_⟩
        · rw [Rest.toList, htl, Rest.toList, leafInsert_append_below _ _ _ _ (Node.below (hb s hs).1 hks)]
        · simp only [Rest.keys, List.mem_cons, List.mem_append] at hx ⊢
          rcases hx with h | h | h
          · exact Or.inr (Or.inl h)
          · exact Or.inr (Or.inr (Or.inl h))
          · exact (hkeys x h).imp_right fun h => Or.inr (Or.inr h)
      | none =>
        have hltt := hts.1 hti
        obtain ⟨hctl, hcwf, hckeys⟩ := Node.ins_spec child hc k v hk.1
        obtain ⟨h1, h2, h3, h4⟩ := Ins.cons_spec hcwf
          (fun x hx => (hckeys x hx).elim (fun h => h ▸ hlt) (hge x)) ht fun s hs =>
          ⟨fun x hx => (hckeys x hx).elim (fun h => h ▸ hltt s hs) ((hb s hs).1 x), (hb s hs).2⟩
        refine spec_of_some ⟨⟨sep, rfl, hlt⟩, h4, ?_, h2, fun x hx => ?_⟩
        · rw [h1, hctl, Rest.toList, leafInsert_append_above _ _ _ _ (Rest.above ht hltt)]
        · simp only [h3, Rest.keys, List.mem_cons, List.mem_append] at hx ⊢
          rcases hx with h | h | h
          · exact Or.inr (Or.inl h)
          · exact (hckeys x h).imp_right fun h => Or.inr (Or.inl h)
          · exact Or.inr (Or.inr (Or.inr h))
end

end NutsProofs.BPT
