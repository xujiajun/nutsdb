/-
  NutsProofs.Lemmas.LogIndex — what a log denotes. The records in the data files, in file order (`allRecs`), are
  the one thing `Commit` and `Open` share; every index is a fold of an applier over them. Here are the folds and
  nothing of `Commit` or `Open`: the key/value index (`kvPut`, `kvOfLog`, `foldLog`, `rawFold`), positions, what a
  fold leaves under a key (`look`, `lastOf`, `look_rawFold`), and a property of every entry of an index (`AllB`); the
  lists, sets and sorted sets (`stepSV`, `foldSV`, `NoPanic`). The definitions keep the namespaces of the statements
  written with them (`Reopen`, `MergeKV`, `ReopenAll`).
-/
import NutsProofs.Lemmas.Assoc


namespace NutsProofs.Reopen
open Nuts Nuts.Model Nuts.Model.DB

/-- a record of the log with where it stands: (record, file id, offset) -/
abbrev LogRec := Rec × Nat × Nat

/-! ### the key/value index as a function of the log -/

/-- the KV component of `applyKV` -/
def kvPut (kv : Assoc (Assoc Idx)) (r : Rec) (fid pos : Nat) : Assoc (Assoc Idx) :=
  aput kv r.bucket (upsert ((aget? kv r.bucket).getD []) r.key ⟨r, fid, pos⟩)

theorem applyKV_kv (s : State) (r : Rec) (fid pos : Nat) : (applyKV s r fid pos).kv = kvPut s.kv r fid pos := rfl

/-- recovery caches every record with status Committed -/
def committedRec (r : Rec) : Rec := { r with status := 1 }

def normIdx (i : Idx) : Idx := { i with r := committedRec i.r }
def normBucket (m : Assoc Idx) : Assoc Idx := m.map fun p => (p.1, normIdx p.2)
def normKV (kv : Assoc (Assoc Idx)) : Assoc (Assoc Idx) := kv.map fun p => (p.1, normBucket p.2)

/-- the index a log denotes: `applyKV` of every record as recovery caches it (`committedRec`), in log order -/
def kvOfLog (L : List LogRec) : Assoc (Assoc Idx) :=
  L.foldl (fun kv x => kvPut kv (committedRec x.1) x.2.1 x.2.2) []

/-- the same fold over a given index: `kvOfLog L = foldLog [] L` by `rfl` -/
def foldLog (kv : Assoc (Assoc Idx)) (L : List LogRec) : Assoc (Assoc Idx) :=
  L.foldl (fun kv x => kvPut kv (committedRec x.1) x.2.1 x.2.2) kv

theorem kvOfLog_append (L : List LogRec) (x : LogRec) :
    kvOfLog (L ++ [x]) = kvPut (kvOfLog L) (committedRec x.1) x.2.1 x.2.2 := by
  simp [kvOfLog, List.foldl_append]

theorem kvOfLog_append_list (A B : List LogRec) : kvOfLog (A ++ B) = foldLog (kvOfLog A) B := by
  simp [kvOfLog, foldLog, List.foldl_append]

theorem normKV_kvPut (kv : Assoc (Assoc Idx)) (r : Rec) (fid pos : Nat) :
    normKV (kvPut kv r fid pos) = kvPut (normKV kv) (committedRec r) fid pos := by
  have hg : ((aget? kv r.bucket).map normBucket).getD [] = normBucket ((aget? kv r.bucket).getD []) := by
    cases aget? kv r.bucket <;> rfl
  show (aput kv r.bucket _).map _ = aput (kv.map _) r.bucket (upsert ((aget? (kv.map _) r.bucket).getD []) r.key _)
  rw [aput_map normBucket, aget_map normBucket, hg]
  exact congrArg _ (upsert_map normIdx ..)

theorem committedRec_idem (r : Rec) : committedRec (committedRec r) = committedRec r := rfl

theorem normKV_idem (kv : Assoc (Assoc Idx)) : normKV (normKV kv) = normKV kv := by
  unfold normKV normBucket
  simp only [List.map_map]
  apply List.map_congr_left
  intro p _
  simp only [Function.comp, List.map_map]
  congr 1

end NutsProofs.Reopen

namespace NutsProofs.MergeKV
open Nuts Nuts.Model Nuts.Model.DB NutsProofs.Reopen

/-- the index after the records of `L` were indexed as they are (the status byte as written) -/
def rawFold (kv : Assoc (Assoc Idx)) (L : List LogRec) : Assoc (Assoc Idx) :=
  L.foldl (fun kv x => kvPut kv x.1 x.2.1 x.2.2) kv

theorem rawFold_append (kv : Assoc (Assoc Idx)) (a b : List LogRec) : rawFold kv (a ++ b) = rawFold (rawFold kv a) b := by
  simp [rawFold, List.foldl_append]

theorem normKV_rawFold (L : List LogRec) (kv : Assoc (Assoc Idx)) : normKV (rawFold kv L) = foldLog (normKV kv) L := by
  induction L generalizing kv with
  | nil => rfl
  | cons x rest ih => simp only [rawFold, foldLog, List.foldl_cons] at ih ⊢; rw [ih, normKV_kvPut]

/-! ### positions -/

/-- position of a record in the data files: (file id, offset), ordered lexicographically -/
def posLe (a b : Nat × Nat) : Prop := a.1 < b.1 ∨ (a.1 = b.1 ∧ a.2 ≤ b.2)
def posLt (a b : Nat × Nat) : Prop := a.1 < b.1 ∨ (a.1 = b.1 ∧ a.2 < b.2)

def posOf (x : LogRec) : Nat × Nat := (x.2.1, x.2.2)

theorem posLe_refl (a : Nat × Nat) : posLe a a := Or.inr ⟨rfl, Nat.le_refl _⟩
theorem posLe_of_lt {a b : Nat × Nat} (h : posLt a b) : posLe a b := by unfold posLe posLt at *; omega
theorem posLe_antisymm {a b : Nat × Nat} (h1 : posLe a b) (h2 : posLe b a) : a = b := by
  unfold posLe at *
  exact Prod.ext (by omega) (by omega)

theorem pos_inj (L : List LogRec) (hs : L.Pairwise (fun x y => posLt (posOf x) (posOf y))) (x y : LogRec)
    (hx : x ∈ L) (hy : y ∈ L) (h : posOf x = posOf y) : x = y := by
  induction L with
  | nil => cases hx
  | cons z rest ih =>
    rw [List.pairwise_cons] at hs
    rcases List.mem_cons.mp hx with rfl | hx' <;> rcases List.mem_cons.mp hy with rfl | hy'
    · rfl
    · have := hs.1 y hy'; rw [h] at this; unfold posLt at this; omega
    · have := hs.1 x hx'; rw [← h] at this; unfold posLt at this; omega
    · exact ih hs.2 hx' hy'

/-! ### what a fold leaves under a key

What else is said here about `rawFold`, `foldLog` and `kvOfLog` follows from `look_rawFold`. -/

def look (kv : Assoc (Assoc Idx)) (b k : Bytes) : Option Idx := (aget? kv b).bind (aget? · k)

theorem look_split {kv : Assoc (Assoc Idx)} {b k : Bytes} {i : Idx} (h : look kv b k = some i) :
    ∃ m, aget? kv b = some m ∧ aget? m k = some i := by
  unfold look at h
  cases hm : aget? kv b with
  | none => rw [hm] at h; cases h
  | some m => rw [hm] at h; exact ⟨m, rfl, h⟩

theorem mem_of_look {kv : Assoc (Assoc Idx)} {b k : Bytes} {i : Idx} (h : look kv b k = some i) :
    ∃ m, aget? kv b = some m ∧ (k, i) ∈ m := by
  obtain ⟨m, hm, hi⟩ := look_split h
  exact ⟨m, hm, aget_mem m k i hi⟩

theorem aget_getD (kv : Assoc (Assoc Idx)) (b k : Bytes) : aget? ((aget? kv b).getD []) k = look kv b k := by
  unfold look; cases aget? kv b <;> rfl

theorem look_normKV (kv : Assoc (Assoc Idx)) (b k : Bytes) : look (normKV kv) b k = (look kv b k).map normIdx := by
  unfold look normKV
  rw [aget_map normBucket]
  cases aget? kv b with
  | none => rfl
  | some m => simp only [Option.map_some, Option.bind_some]; exact aget_map normIdx m k

theorem look_kvPut (kv : Assoc (Assoc Idx)) (r : Rec) (fid pos : Nat) (b k : Bytes) :
    look (kvPut kv r fid pos) b k = if b = r.bucket ∧ k = r.key then some ⟨r, fid, pos⟩ else look kv b k := by
  unfold look kvPut
  by_cases hbb : b = r.bucket
  · subst hbb
    rw [aget_aput_self]
    simp only [Option.bind_some, true_and]
    by_cases hkk : k = r.key
    · subst hkk; simp [aget_upsert_self]
    · simp only [hkk, if_false]
      rw [aget_upsert_other _ _ _ _ hkk]
      cases aget? kv r.bucket <;> simp [aget?]
  · rw [aget_aput_other _ _ _ _ hbb]
    simp [hbb]

/-- the index entry `kvPut` makes of a log record -/
def idxOf (x : LogRec) : Idx := ⟨x.1, x.2.1, x.2.2⟩

/-- a log record as recovery caches it -/
def cmt (x : LogRec) : LogRec := (committedRec x.1, x.2.1, x.2.2)

/-- the last record the log has under bucket `b` and key `k` -/
def lastOf (L : List LogRec) (b k : Bytes) : Option LogRec :=
  (L.filter fun x => x.1.bucket = b ∧ x.1.key = k).getLast?

theorem lastOf_append (A B : List LogRec) (b k : Bytes) : lastOf (A ++ B) b k = (lastOf B b k).or (lastOf A b k) := by
  unfold lastOf; rw [List.filter_append, List.getLast?_append]

theorem lastOf_cons (x : LogRec) (L : List LogRec) (b k : Bytes) :
    lastOf (x :: L) b k = (lastOf L b k).or (if x.1.bucket = b ∧ x.1.key = k then some x else none) := by
  rw [← List.singleton_append, lastOf_append]
  congr 1
  unfold lastOf
  by_cases h : x.1.bucket = b ∧ x.1.key = k <;> simp [h]

theorem lastOf_some {L : List LogRec} {b k : Bytes} {y : LogRec} (h : lastOf L b k = some y) :
    y ∈ L ∧ y.1.bucket = b ∧ y.1.key = k := by
  have := List.mem_filter.mp (List.mem_of_getLast? h)
  exact ⟨this.1, by simpa using this.2⟩

theorem lastOf_none {L : List LogRec} {b k : Bytes} : lastOf L b k = none ↔ ∀ x ∈ L, ¬ (x.1.bucket = b ∧ x.1.key = k) := by
  unfold lastOf
  rw [List.getLast?_eq_none_iff, List.filter_eq_nil_iff]
  simp

theorem lastOf_mem {L : List LogRec} (hs : L.Pairwise (fun x y => posLt (posOf x) (posOf y))) {x : LogRec} (hx : x ∈ L) :
    ∃ y, lastOf L x.1.bucket x.1.key = some y ∧ posLe (posOf x) (posOf y) := by
  cases hy : lastOf L x.1.bucket x.1.key with
  | none => exact absurd ⟨rfl, rfl⟩ (lastOf_none.mp hy x hx)
  | some y =>
    refine ⟨y, rfl, ?_⟩
    rcases pairwise_getLast? (hs.filter _) hy x (List.mem_filter.mpr ⟨hx, by simp⟩) with rfl | h
    · exact posLe_refl _
    · exact posLe_of_lt h

theorem lastOf_cmt (L : List LogRec) (b k : Bytes) : lastOf (L.map cmt) b k = (lastOf L b k).map cmt := by
  unfold lastOf
  rw [List.filter_map, List.getLast?_map]
  rfl

/-- **what a fold leaves under a key**: the last record of the log with that key; the old entry where the log has
none -/
theorem look_rawFold (L : List LogRec) (kv : Assoc (Assoc Idx)) (b k : Bytes) :
    look (rawFold kv L) b k = ((lastOf L b k).map idxOf).or (look kv b k) := by
  induction L generalizing kv with
  | nil => rfl
  | cons z rest ih =>
    show look (rawFold (kvPut kv z.1 z.2.1 z.2.2) rest) b k = _
    rw [ih, look_kvPut, lastOf_cons]
    by_cases h : b = z.1.bucket ∧ k = z.1.key
    · obtain ⟨rfl, rfl⟩ := h
      cases lastOf rest z.1.bucket z.1.key <;> simp [idxOf]
    · have h' : ¬ (z.1.bucket = b ∧ z.1.key = k) := fun c => h ⟨c.1.symm, c.2.symm⟩
      cases lastOf rest b k <;> simp [h, h']

theorem foldLog_eq_rawFold (kv : Assoc (Assoc Idx)) (L : List LogRec) : foldLog kv L = rawFold kv (L.map cmt) := by
  unfold foldLog rawFold; rw [List.foldl_map]; rfl

theorem look_foldLog (L : List LogRec) (kv : Assoc (Assoc Idx)) (b k : Bytes) :
    look (foldLog kv L) b k = ((lastOf L b k).map fun y => idxOf (cmt y)).or (look kv b k) := by
  rw [foldLog_eq_rawFold, look_rawFold, lastOf_cmt, Option.map_map]; rfl

theorem look_kvOfLog (L : List LogRec) (b k : Bytes) : look (kvOfLog L) b k = (lastOf L b k).map fun y => idxOf (cmt y) := by
  show look (foldLog [] L) b k = _
  rw [look_foldLog]; cases lastOf L b k <;> rfl

theorem rawFold_frame (L : List LogRec) (kv : Assoc (Assoc Idx)) (b k : Bytes)
    (h : ∀ x ∈ L, ¬ (x.1.bucket = b ∧ x.1.key = k)) : look (rawFold kv L) b k = look kv b k := by
  rw [look_rawFold, lastOf_none.mpr h]; rfl

theorem foldLog_frame (L : List LogRec) (kv : Assoc (Assoc Idx)) (b k : Bytes)
    (h : ∀ x ∈ L, ¬ (x.1.bucket = b ∧ x.1.key = k)) : look (foldLog kv L) b k = look kv b k := by
  rw [look_foldLog, lastOf_none.mpr h]; rfl

theorem rawFold_latest (L : List LogRec) (kv : Assoc (Assoc Idx)) (hs : L.Pairwise (fun x y => posLt (posOf x) (posOf y))) :
    ∀ x ∈ L, ∃ y ∈ L, y.1.bucket = x.1.bucket ∧ y.1.key = x.1.key ∧ posLe (posOf x) (posOf y) ∧
      look (rawFold kv L) x.1.bucket x.1.key = some ⟨y.1, y.2.1, y.2.2⟩ := by
  intro x hx
  obtain ⟨y, hy, hle⟩ := lastOf_mem hs hx
  obtain ⟨hyL, hb, hk⟩ := lastOf_some hy
  exact ⟨y, hyL, hb, hk, hle, by rw [look_rawFold, hy]; rfl⟩

/-- after a log ascending in position is folded into an index, the entry of a record's key is a record of the log
with the same bucket and key, at the same or a later position -/
theorem foldLog_latest (L : List LogRec) (kv : Assoc (Assoc Idx)) (hs : L.Pairwise (fun x y => posLt (posOf x) (posOf y))) :
    ∀ x ∈ L, ∃ y ∈ L, y.1.bucket = x.1.bucket ∧ y.1.key = x.1.key ∧ posLe (posOf x) (posOf y) ∧
      look (foldLog kv L) x.1.bucket x.1.key = some ⟨committedRec y.1, y.2.1, y.2.2⟩ := by
  intro x hx
  obtain ⟨y, hy, hle⟩ := lastOf_mem hs hx
  obtain ⟨hyL, hb, hk⟩ := lastOf_some hy
  exact ⟨y, hyL, hb, hk, hle, by rw [look_foldLog, hy]; rfl⟩

/-! ### a property of every entry of an index -/

def AllB (kv : Assoc (Assoc Idx)) (P : Bytes → Bytes → Idx → Prop) : Prop :=
  ∀ b m p, aget? kv b = some m → p ∈ m → P b p.1 p.2

theorem AllB.imp {kv : Assoc (Assoc Idx)} {P Q : Bytes → Bytes → Idx → Prop} (h : AllB kv P) (hpq : ∀ b k i, P b k i → Q b k i) :
    AllB kv Q := fun b m p hm hp => hpq _ _ _ (h b m p hm hp)

theorem AllB.look {kv : Assoc (Assoc Idx)} {P : Bytes → Bytes → Idx → Prop} (h : AllB kv P) {b k : Bytes} {i : Idx}
    (hl : look kv b k = some i) : P b k i := by
  obtain ⟨m, hm, hp⟩ := mem_of_look hl
  exact h b m (k, i) hm hp

theorem kvPut_allB (kv : Assoc (Assoc Idx)) (r : Rec) (fid pos : Nat) (P : Bytes → Bytes → Idx → Prop)
    (h : AllB kv P) (hn : P r.bucket r.key ⟨r, fid, pos⟩) : AllB (kvPut kv r fid pos) P := by
  intro b m p hm hp
  unfold kvPut at hm
  by_cases hb : b = r.bucket
  · subst hb
    rw [aget_aput_self] at hm
    cases hm
    rcases mem_upsert _ _ _ _ hp with rfl | hp
    · exact hn
    · cases hq : aget? kv r.bucket with
      | none => rw [hq] at hp; simp at hp
      | some m0 => rw [hq] at hp; exact h _ _ _ hq (by simpa using hp)
  · rw [aget_aput_other _ _ _ _ hb] at hm
    exact h b m p hm hp

theorem rawFold_allB (L : List LogRec) (kv : Assoc (Assoc Idx)) (P : Bytes → Bytes → Idx → Prop) (h : AllB kv P)
    (hL : ∀ x ∈ L, P x.1.bucket x.1.key ⟨x.1, x.2.1, x.2.2⟩) : AllB (rawFold kv L) P := by
  induction L generalizing kv with
  | nil => exact h
  | cons x rest ih =>
    simp only [rawFold, List.foldl_cons]
    exact ih _ (kvPut_allB kv _ _ _ P h (hL x (by simp))) (fun y hy => hL y (by simp [hy]))

theorem AllB.nil (P : Bytes → Bytes → Idx → Prop) : AllB [] P := fun _ _ _ h => nomatch h

theorem foldLog_allB (L : List LogRec) (kv : Assoc (Assoc Idx)) (P : Bytes → Bytes → Idx → Prop) (h : AllB kv P)
    (hL : ∀ x ∈ L, P x.1.bucket x.1.key (idxOf (cmt x))) : AllB (foldLog kv L) P := by
  rw [foldLog_eq_rawFold]
  exact rawFold_allB _ kv P h fun x hx => by obtain ⟨y, hy, rfl⟩ := List.mem_map.mp hx; exact hL y hy

theorem kvOfLog_entries (L : List LogRec) : AllB (kvOfLog L) fun _ _ i => ∃ x ∈ L, i = idxOf (cmt x) :=
  foldLog_allB L [] _ (.nil _) fun x hx => ⟨x, hx, rfl⟩

end NutsProofs.MergeKV

namespace NutsProofs.ReopenAll
open Nuts Nuts.Model Nuts.Model.DB NutsProofs.Reopen

/-! ### the lists, sets and sorted sets as a function of the log -/

structure SV where
  lists : Assoc ListDS.St
  sets : Assoc SetDS.St
  zsets : Assoc ZSetA.St

def sv (s : State) : SV := ⟨s.lists, s.sets, s.zsets⟩

def emptySV : SV := ⟨[], [], []⟩

/-- `applyOther` on the structures alone. `atCommit` (`c` below) is the model's flag: `true` for the applier `Commit`
runs (`tx.build…Idx`), `false` for the one `Open` runs (`db.build…Idx`); they differ on malformed `ZAdd` keys only
(`applyZSet_flag`) -/
def stepSV (v : SV) (r : Rec) (atCommit : Bool) : SV × Outcome Unit :=
  if r.ds == dsSet then
    let (m, o) := applySet ((aget? v.sets r.bucket).getD []) r
    ({ v with sets := aput v.sets r.bucket m }, o)
  else if r.ds == dsZSet then
    let (z, o) := applyZSet ((aget? v.zsets r.bucket).getD []) r atCommit
    ({ v with zsets := aput v.zsets r.bucket z }, o)
  else if r.ds == dsList then
    let (l, o) := applyList ((aget? v.lists r.bucket).getD []) r
    ({ v with lists := aput v.lists r.bucket l }, o)
  else (v, .ok ())

theorem stepSV_eq (v : SV) (r : Rec) (c : Bool) :
    stepSV v r c =
      ({ lists := if r.ds = dsList then aput v.lists r.bucket (applyList ((aget? v.lists r.bucket).getD []) r).1 else v.lists
         sets := if r.ds = dsSet then aput v.sets r.bucket (applySet ((aget? v.sets r.bucket).getD []) r).1 else v.sets
         zsets := if r.ds = dsZSet then aput v.zsets r.bucket (applyZSet ((aget? v.zsets r.bucket).getD []) r c).1 else v.zsets },
       if r.ds = dsSet then (applySet ((aget? v.sets r.bucket).getD []) r).2
       else if r.ds = dsZSet then (applyZSet ((aget? v.zsets r.bucket).getD []) r c).2
       else if r.ds = dsList then (applyList ((aget? v.lists r.bucket).getD []) r).2 else .ok ()) := by
  unfold stepSV
  by_cases h1 : r.ds = dsSet
  · simp only [h1, beq_self_eq_true, if_true]; rfl
  · by_cases h2 : r.ds = dsZSet
    · simp only [h2, beq_self_eq_true, if_true]; rfl
    · by_cases h3 : r.ds = dsList
      · simp only [h3, beq_self_eq_true, if_true]; rfl
      · simp only [h1, h2, h3, beq_iff_eq, if_false]

/-- `applyOther` changes the three structure maps as `stepSV` says and nothing else -/
theorem applyOther_eq (s : State) (r : Rec) (c : Bool) :
    (applyOther s r c).1 = { s with lists := (stepSV (sv s) r c).1.lists, sets := (stepSV (sv s) r c).1.sets,
                                    zsets := (stepSV (sv s) r c).1.zsets } ∧
    (applyOther s r c).2 = (stepSV (sv s) r c).2 := by
  unfold applyOther stepSV
  by_cases h1 : (r.ds == dsSet) = true
  · simp only [h1, if_true]; exact ⟨rfl, rfl⟩
  · by_cases h2 : (r.ds == dsZSet) = true
    · simp only [h1, h2, if_true]; exact ⟨rfl, rfl⟩
    · by_cases h3 : (r.ds == dsList) = true
      · simp only [h1, h2, h3, if_true]; exact ⟨rfl, rfl⟩
      · simp only [h1, h2, h3]; exact ⟨rfl, rfl⟩

theorem applyOther_sv (s : State) (r : Rec) (c : Bool) : sv (applyOther s r c).1 = (stepSV (sv s) r c).1 := by
  rw [(applyOther_eq s r c).1]; rfl

theorem sv_applyKV (s : State) (r : Rec) (fid pos : Nat) : sv (applyKV s r fid pos) = sv s := rfl

/-- a key/value record is nothing to the structures -/
theorem stepSV_kv (v : SV) (r : Rec) (c : Bool) (h : r.ds = dsKV) : stepSV v r c = (v, .ok ()) := by
  unfold stepSV
  rw [h]; rfl

/-- sorted-set records whose key has exactly two parts (`key|score`): the form on which the applier of
`Commit` and the applier of `Open` agree -/
def ZKeyOk (r : Rec) : Prop := r.ds = dsZSet → r.flag = flagZAdd → ∃ k sc, splitSep r.key = [k, sc]

theorem applyZSet_flag (z : ZSetA.St) (r : Rec) (h : r.flag = flagZAdd → ∃ k sc, splitSep r.key = [k, sc]) :
    applyZSet z r true = applyZSet z r false := by
  unfold applyZSet
  by_cases hf : r.flag = flagZAdd
  · obtain ⟨k, sc, hk⟩ := h hf
    simp [hf, hk]
  · have : (r.flag == flagZAdd) = false := by simpa using hf
    simp [this]

theorem stepSV_flag (v : SV) (r : Rec) (h : ZKeyOk r) : stepSV v r true = stepSV v r false := by
  rw [stepSV_eq, stepSV_eq]
  by_cases hz : r.ds = dsZSet
  · rw [applyZSet_flag _ r (h hz)]
  · simp only [hz, if_false]

theorem stepSV_status (v : SV) (r : Rec) (c : Bool) (l : Bool) : stepSV v (markLast r l) c = stepSV v r c := by
  unfold markLast; split <;> rfl

def foldSV (v : SV) (rs : List Rec) (c : Bool) : SV := rs.foldl (fun v r => (stepSV v r c).1) v

theorem foldSV_append (v : SV) (a b : List Rec) (c : Bool) : foldSV v (a ++ b) c = foldSV (foldSV v a c) b c := by
  simp [foldSV, List.foldl_append]

/-- no application along the way panics -/
def NoPanic (v : SV) (rs : List Rec) (c : Bool) : Prop :=
  ∀ a x b, rs = a ++ x :: b → (stepSV (foldSV v a c) x c).2 ≠ .panic

theorem noPanic_nil (v : SV) (c : Bool) : NoPanic v [] c := by intro a x b hab; simp at hab

theorem noPanic_cons (v : SV) (r : Rec) (rest : List Rec) (c : Bool) :
    NoPanic v (r :: rest) c ↔ (stepSV v r c).2 ≠ .panic ∧ NoPanic (stepSV v r c).1 rest c := by
  constructor
  · intro h
    exact ⟨h [] r rest rfl, fun a x b hab => by simpa [foldSV] using h (r :: a) x b (by rw [hab]; rfl)⟩
  · rintro ⟨h1, h2⟩ a x b hab
    cases a with
    | nil => simp at hab; obtain ⟨rfl, rfl⟩ := hab; exact h1
    | cons a0 as =>
      simp at hab
      obtain ⟨rfl, hrest⟩ := hab
      simpa [foldSV] using h2 as x b hrest

theorem noPanic_append (v : SV) (a b : List Rec) (c : Bool) :
    NoPanic v (a ++ b) c ↔ NoPanic v a c ∧ NoPanic (foldSV v a c) b c := by
  induction a generalizing v with
  | nil => simp [NoPanic, foldSV]
  | cons r rest ih =>
    rw [List.cons_append, noPanic_cons, noPanic_cons, ih]
    simp [foldSV, and_assoc]

theorem noPanic_prefix (v : SV) (a b : List Rec) (c : Bool) (h : NoPanic v (a ++ b) c) : NoPanic v a c :=
  ((noPanic_append v a b c).mp h).1

theorem noPanic_of_forall (v : SV) (L : List LogRec) (c : Bool) (h : ∀ x ∈ L, ∀ w, (stepSV w x.1 c).2 ≠ .panic) :
    NoPanic v (L.map (·.1)) c := by
  intro a r b hab
  obtain ⟨x, hx, rfl⟩ := List.mem_map.mp (show r ∈ L.map (·.1) by simp [hab])
  exact h x hx _

theorem noPanic_kvOnly (v : SV) (L : List LogRec) (c : Bool) (h : ∀ x ∈ L, x.1.ds = dsKV) : NoPanic v (L.map (·.1)) c :=
  noPanic_of_forall v L c fun x hx w => by rw [stepSV_kv w x.1 c (h x hx)]; simp

/-- the records the key/value index is folded over (`Appended.kv`, `Replay.open_of_log`); the structures fold over all -/
def isKVrec (x : LogRec) : Bool := x.1.ds == dsKV

theorem filter_isKVrec_kvOnly (L : List LogRec) (h : ∀ x ∈ L, x.1.ds = dsKV) : L.filter isKVrec = L :=
  List.filter_eq_self.mpr fun x hx => by simp [isKVrec, h x hx]

end NutsProofs.ReopenAll
