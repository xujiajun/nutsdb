/-
  NutsProofs.Lemmas.ZSetOrder — the node list of a sorted set under Put / Remove: the strict (score, key)
  order, its preservation, membership; what a position in a strictly ordered list with distinct keys says
  (a downward closed test holds on a prefix, the order of two members is that of their positions, a key names
  one position). The skiplist lemmas and Props/C07.lean build on it.
-/
import Nuts.Model.ZSetA
import NutsProofs.Lemmas.Bytes
namespace NutsProofs.ZOrd
open Nuts Nuts.Model Nuts.Model.ZSetA

/-- strict (score, key) order -/
def Lt (a b : Node) : Prop := a.score < b.score ∨ (a.score = b.score ∧ bcmp a.key b.key = .lt)

theorem nlt_iff (a b : Node) : nlt a b = true ↔ Lt a b := by
  simp [nlt, Lt, blt]

theorem Lt_trans {a b c : Node} (h1 : Lt a b) (h2 : Lt b c) : Lt a c := by
  unfold Lt at *
  rcases h1 with h1 | ⟨h1, k1⟩ <;> rcases h2 with h2 | ⟨h2, k2⟩
  · left; omega
  · left; omega
  · left; omega
  · right; exact ⟨by omega, bcmp_lt_trans k1 k2⟩

theorem Lt_irrefl (a : Node) : ¬ Lt a a := by
  rintro (h | ⟨_, h⟩)
  · omega
  · rw [bcmp_refl] at h; cases h

theorem Lt_total (a b : Node) (hk : a.key ≠ b.key) (h : ¬ Lt a b) : Lt b a := by
  unfold Lt at *
  by_cases hs : b.score < a.score
  · left; exact hs
  · have he : a.score = b.score := by
      by_cases hlt : a.score < b.score
      · exact absurd (Or.inl hlt) h
      · omega
    right
    refine ⟨he.symm, ?_⟩
    cases hc : bcmp a.key b.key with
    | lt => exact absurd (Or.inr ⟨he, hc⟩) h
    | eq => exact absurd ((bcmp_eq_iff _ _).mp hc) hk
    | gt => exact (bcmp_gt_iff_lt _ _).mp hc

def Sorted (s : St) : Prop := s.Pairwise Lt

theorem insertSorted_perm (s : St) (n : Node) : (insertSorted s n).Perm (n :: s) := by
  induction s with
  | nil => exact .refl _
  | cons a rest ih =>
    rw [insertSorted]
    split
    · exact .refl _
    · exact (ih.cons a).trans (.swap n a rest)

theorem mem_insertSorted (s : St) (n x : Node) : x ∈ insertSorted s n ↔ x = n ∨ x ∈ s :=
  (insertSorted_perm s n).mem_iff.trans List.mem_cons

theorem nlt_flip {n x : Node} (hk : x.key ≠ n.key) : (!nlt n x) = nlt x n := by
  by_cases h1 : nlt n x = true
  · have : ¬ nlt x n = true := fun h2 => Lt_irrefl _ (Lt_trans ((nlt_iff n x).mp h1) ((nlt_iff x n).mp h2))
    simp [h1, this]
  · have : nlt x n = true := (nlt_iff x n).mpr (Lt_total n x (fun e => hk e.symm) (fun c => h1 ((nlt_iff n x).mpr c)))
    simp [h1, this]

theorem insertSorted_eq (ns : List Node) (n : Node) (hk : ∀ x ∈ ns, x.key ≠ n.key) :
    ZSetA.insertSorted ns n = ns.takeWhile (nlt · n) ++ n :: ns.dropWhile (nlt · n) := by
  induction ns with
  | nil => rfl
  | cons a rest ih =>
    have hf := nlt_flip (hk a (List.mem_cons_self ..))
    rw [ZSetA.insertSorted, List.takeWhile_cons, List.dropWhile_cons, ← hf]
    by_cases h : nlt n a = true
    · rw [if_pos h, h]; rfl
    · rw [if_neg h, Bool.eq_false_iff.mpr h, ih fun x hx => hk x (List.mem_cons_of_mem _ hx)]; rfl

theorem insertSorted_sorted (s : St) (n : Node) (h : Sorted s) (hk : ∀ x ∈ s, x.key ≠ n.key) :
    Sorted (insertSorted s n) := by
  induction s with
  | nil => simp [insertSorted, Sorted]
  | cons y ys ih =>
    unfold Sorted at h ⊢
    rw [List.pairwise_cons] at h
    obtain ⟨h1, h2⟩ := h
    simp only [insertSorted]
    split
    · rename_i hlt
      have hny : Lt n y := (nlt_iff n y).mp hlt
      rw [List.pairwise_cons]
      refine ⟨?_, List.pairwise_cons.mpr ⟨h1, h2⟩⟩
      intro x hx
      simp at hx
      rcases hx with hx | hx
      · subst hx; exact hny
      · exact Lt_trans hny (h1 x hx)
    · rename_i hlt
      have hyn : Lt y n := Lt_total n y (fun e => hk y (by simp) e.symm) (fun c => hlt ((nlt_iff n y).mpr c))
      rw [List.pairwise_cons]
      refine ⟨?_, ih h2 (fun x hx => hk x (by simp [hx]))⟩
      intro x hx
      rcases (mem_insertSorted ys n x).mp hx with hx | hx
      · subst hx; exact hyn
      · exact h1 x hx

theorem insertSorted_keys_nodup (ns : List Node) (n : Node) (hk : (ns.map (·.key)).Nodup) (hf : ∀ x ∈ ns, x.key ≠ n.key) :
    ((ZSetA.insertSorted ns n).map (·.key)).Nodup := by
  rw [((insertSorted_perm ns n).map _).nodup_iff, List.map_cons, List.nodup_cons]
  exact ⟨fun hm => by obtain ⟨y, hy, e⟩ := List.mem_map.mp hm; exact hf y hy e, hk⟩

theorem remove_sorted (s : St) (k : Bytes) (h : Sorted s) : Sorted (remove s k) := by
  unfold Sorted remove at *
  exact List.Pairwise.filter _ h

theorem mem_remove (s : St) (k : Bytes) (x : Node) : x ∈ remove s k ↔ x ∈ s ∧ x.key ≠ k := by
  simp [remove]

theorem setValue_sorted (s : St) (k v : Bytes) (h : Sorted s) :
    Sorted (s.map fun x => if x.key = k then { x with value := v } else x) := by
  unfold Sorted at *
  rw [List.pairwise_map]
  refine h.imp ?_
  intro a b hab
  unfold Lt at *
  split <;> split <;> simpa using hab

theorem find_none_fresh {ns : St} {k : Bytes} (h : find? ns k = none) : ∀ x ∈ ns, x.key ≠ k := by
  unfold find? at h
  rw [List.find?_eq_none] at h
  intro x hx
  simpa using h x hx

theorem rankOf_of_find_none {ns : St} {k : Bytes} (h : find? ns k = none) : rankOf ns k = 0 := by
  have : ns.findIdx? (fun x => decide (x.key = k)) = none := by
    rw [List.findIdx?_eq_none_iff]
    intro x hx
    simpa using find_none_fresh h x hx
  rw [rankOf, this]

theorem rankOf_of_find_some {ns : St} {k : Bytes} {n : Node} (h : find? ns k = some n) : rankOf ns k ≠ 0 := by
  unfold rankOf
  cases hi : ns.findIdx? (fun x => decide (x.key = k)) with
  | some i => simp
  | none =>
    rw [List.findIdx?_eq_none_iff] at hi
    have := hi n (List.mem_of_find?_eq_some h)
    have := List.find?_some h
    simp_all

/-! ### positions -/

theorem prefix_iff {R : Node → Node → Prop} {P : Node → Bool} {ns : List Node} (hs : ns.Pairwise R)
    (hmono : ∀ a b, R a b → P b = true → P a = true) :
    ∀ j x, ns[j]? = some x → (P x = true ↔ j < (ns.takeWhile P).length) := by
  induction ns with
  | nil => intro j x h; simp at h
  | cons a rest ih =>
    rw [List.pairwise_cons] at hs
    intro j x hj
    cases j with
    | zero =>
      simp at hj; subst hj
      by_cases hp : P a = true <;> simp [hp]
    | succ j' =>
      rw [List.getElem?_cons_succ] at hj
      by_cases hp : P a = true
      · simp only [List.takeWhile_cons, hp, if_true, List.length_cons]
        rw [ih hs.2 j' x hj]
        omega
      · simp only [List.takeWhile_cons, hp]
        have hx : ¬ P x = true := fun e => hp (hmono a x (hs.1 x (List.mem_of_getElem? hj)) e)
        simp [hx]

theorem takeWhile_length_le (P : Node → Bool) (ns : List Node) : (ns.takeWhile P).length ≤ ns.length :=
  (List.takeWhile_sublist P).length_le

theorem takeWhile_append_dropWhile_len (P : Node → Bool) (ns : List Node) :
    ns.takeWhile P = ns.take (ns.takeWhile P).length ∧ ns.dropWhile P = ns.drop (ns.takeWhile P).length := by
  have e1 : (ns.takeWhile P ++ ns.dropWhile P).take (ns.takeWhile P).length = ns.takeWhile P := List.take_left' rfl
  have e2 : (ns.takeWhile P ++ ns.dropWhile P).drop (ns.takeWhile P).length = ns.dropWhile P := List.drop_left' rfl
  rw [List.takeWhile_append_dropWhile] at e1 e2
  exact ⟨e1.symm, e2.symm⟩

theorem sorted_lt_iff {ns : List Node} (hs : Sorted ns) {j j' : Nat} {x y : Node} (hj : ns[j]? = some x)
    (hj' : ns[j']? = some y) : Lt y x ↔ j' < j := by
  obtain ⟨hjl, rfl⟩ := List.getElem?_eq_some_iff.mp hj
  obtain ⟨hjl', rfl⟩ := List.getElem?_eq_some_iff.mp hj'
  have hp := List.pairwise_iff_getElem.mp hs
  refine ⟨fun h => ?_, fun h => hp j' j hjl' hjl h⟩
  apply Decidable.byContradiction
  intro hn
  by_cases he : j = j'
  · subst he; exact Lt_irrefl _ h
  · exact Lt_irrefl _ (Lt_trans h (hp j j' hjl hjl' (by omega)))

/-! ### distinct keys -/

theorem find_some_idx {ns : List Node} {k : Bytes} {n : Node} (h : ZSetA.find? ns k = some n) :
    n.key = k ∧ ∃ j : Nat, ns[j]? = some n := by
  unfold ZSetA.find? at h
  have h1 := List.find?_some h
  have h2 := List.mem_of_find?_eq_some h
  rw [List.mem_iff_getElem?] at h2
  exact ⟨by simpa using h1, h2⟩

theorem key_inj {ns : List Node} (hk : (ns.map (·.key)).Nodup) {j j' : Nat} {x y : Node} (hj : ns[j]? = some x)
    (hj' : ns[j']? = some y) (e : y.key = x.key) : j' = j := by
  obtain ⟨hjl, rfl⟩ := List.getElem?_eq_some_iff.mp hj
  obtain ⟨hjl', rfl⟩ := List.getElem?_eq_some_iff.mp hj'
  have hp := List.pairwise_iff_getElem.mp hk
  rcases Nat.lt_trichotomy j' j with h | h | h
  · exact absurd (by rw [List.getElem_map, List.getElem_map]; exact e) (hp j' j (by simpa using hjl') (by simpa using hjl) h)
  · exact h
  · exact absurd (by rw [List.getElem_map, List.getElem_map]; exact e.symm) (hp j j' (by simpa using hjl) (by simpa using hjl') h)

theorem find_of_get {ns : List Node} (hk : (ns.map (·.key)).Nodup) {j : Nat} {x : Node} (hj : ns[j]? = some x) :
    ZSetA.find? ns x.key = some x := by
  unfold ZSetA.find?
  rw [List.find?_eq_some_iff_getElem]
  obtain ⟨hjl, e⟩ := List.getElem?_eq_some_iff.mp hj
  refine ⟨by simp, j, hjl, e, fun j' hj' => ?_⟩
  have := key_inj hk hj (List.getElem?_eq_getElem (Nat.lt_trans hj' hjl))
  simp only [Bool.not_eq_true', decide_eq_false_iff_not]
  exact fun e => absurd (this e) (by omega)

theorem filter_key_eraseIdx (ns : List Node) (j : Nat) (x : Node) (hj : ns[j]? = some x)
    (hk : (ns.map (·.key)).Nodup) : ns.filter (fun y => decide (y.key ≠ x.key)) = ns.eraseIdx j := by
  induction ns generalizing j with
  | nil => simp at hj
  | cons a rest ih =>
    simp only [List.map_cons, List.nodup_cons] at hk
    cases j with
    | zero =>
      simp at hj; subst hj
      simp only [List.eraseIdx_zero, List.tail_cons]
      rw [List.filter_cons_of_neg (by simp)]
      rw [List.filter_eq_self]
      intro y hy
      have : y.key ≠ a.key := fun e => hk.1 (by rw [← e]; exact List.mem_map.mpr ⟨y, hy, rfl⟩)
      simpa using this
    | succ j' =>
      rw [List.getElem?_cons_succ] at hj
      have hax : a.key ≠ x.key := fun e => hk.1 (by rw [e]; exact List.mem_map.mpr ⟨x, List.mem_of_getElem? hj, rfl⟩)
      rw [List.filter_cons_of_pos (by simpa using hax), List.eraseIdx_cons_succ, ih j' hj hk.2]

theorem findIdx_key {ns : List Node} (hk : (ns.map (·.key)).Nodup) {j : Nat} {x : Node} (hj : ns[j]? = some x) :
    ns.findIdx? (fun y => decide (y.key = x.key)) = some j := by
  rw [List.findIdx?_eq_some_iff_getElem]
  obtain ⟨hjl, e⟩ := List.getElem?_eq_some_iff.mp hj
  refine ⟨hjl, by simp [e], fun j' hj' => ?_⟩
  have := key_inj hk hj (List.getElem?_eq_getElem (Nat.lt_trans hj' hjl))
  exact fun e => absurd (this (of_decide_eq_true e)) (by omega)

theorem put_sorted (s : St) (k : Bytes) (sc : Int) (v : Bytes) (h : Sorted s) : Sorted (put s k sc v) := by
  unfold put
  split
  · split
    · exact setValue_sorted s k v h
    · exact insertSorted_sorted _ _ (remove_sorted s k h) fun x hx => ((mem_remove s k x).mp hx).2
  · rename_i hnone
    exact insertSorted_sorted _ _ h (find_none_fresh hnone)

example : Sorted (put (put [] [98] 1 []) [97] 1 []) :=
  put_sorted _ _ _ _ (put_sorted _ _ _ _ (by simp [Sorted]))

/-- ties on the score are ordered by key: `a` before `b` at equal scores -/
example : (put (put [] [98] 1 []) [97] 1 []).map (·.key) = [[97], [98]] := by decide

end NutsProofs.ZOrd
