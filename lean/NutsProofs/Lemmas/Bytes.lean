/-
  Order lemmas for `bcmp` (= Go `bytes.Compare`): it is core's lexicographic `compare` on `List UInt8`, so it
  is a lawful total order (`Std.TransCmp`, `Std.LawfulEqCmp`) and core's lemmas about such comparisons apply.
-/
import Nuts.Basic
namespace NutsProofs
open Nuts Std

theorem bcmp_eq_compare : (a b : Bytes) → bcmp a b = compare a b
  | [], [] => rfl
  | [], _ :: _ => rfl
  | _ :: _, [] => rfl
  | x :: xs, y :: ys => by
    rw [bcmp, List.compare_cons_cons, bcmp_eq_compare xs ys]
    show _ = (compareOfLessAndEq x y).then _
    unfold compareOfLessAndEq
    by_cases h1 : x < y
    · simp [h1]
    · by_cases h2 : y < x
      · simp [h1, h2, (UInt8.ne_of_lt h2).symm]
      · simp [UInt8.le_antisymm (UInt8.not_lt.mp h2) (UInt8.not_lt.mp h1)]

theorem bcmp_eq : bcmp = compare := funext fun a => funext (bcmp_eq_compare a)

instance : TransCmp bcmp := bcmp_eq ▸ (inferInstance : TransOrd Bytes)
instance : LawfulEqCmp bcmp := bcmp_eq ▸ (inferInstance : LawfulEqOrd Bytes)

theorem bcmp_refl (a : Bytes) : bcmp a a = .eq := ReflCmp.compare_self

theorem bcmp_eq_iff (a b : Bytes) : bcmp a b = .eq ↔ a = b := LawfulEqCmp.compare_eq_iff_eq

theorem bcmp_swap (a b : Bytes) : bcmp b a = (bcmp a b).swap := OrientedCmp.eq_swap

theorem bcmp_lt_trans {a b c : Bytes} (h1 : bcmp a b = .lt) (h2 : bcmp b c = .lt) : bcmp a c = .lt :=
  TransCmp.lt_trans h1 h2

theorem bcmp_ne_of_lt {a b : Bytes} (h : bcmp a b = .lt) : a ≠ b := fun he => by simp [he, bcmp_refl] at h

theorem bcmp_gt_iff_lt (a b : Bytes) : bcmp a b = .gt ↔ bcmp b a = .lt := OrientedCmp.gt_iff_lt

/-- `b ≤ c` in the form the tree's descent tests it: not `c < b` -/
theorem bcmp_lt_of_lt_of_ge {a b c : Bytes} (h1 : bcmp a b = .lt) (h2 : bcmp c b ≠ .lt) : bcmp a c = .lt :=
  TransCmp.lt_of_lt_of_isLE h1 (OrientedCmp.isLE_of_isGE (Ordering.ne_lt_iff_isGE.mp h2))

theorem bcmp_lt_of_ge_of_lt {a b c : Bytes} (h1 : bcmp b a ≠ .lt) (h2 : bcmp b c = .lt) : bcmp a c = .lt :=
  TransCmp.lt_of_isLE_of_lt (OrientedCmp.isLE_of_isGE (Ordering.ne_lt_iff_isGE.mp h1)) h2

theorem bcmp_ge_trans {a b c : Bytes} (h1 : bcmp a b ≠ .lt) (h2 : bcmp b c ≠ .lt) : bcmp a c ≠ .lt :=
  Ordering.ne_lt_iff_isGE.mpr (TransCmp.isGE_trans (Ordering.ne_lt_iff_isGE.mp h1) (Ordering.ne_lt_iff_isGE.mp h2))

theorem bcmp_le_trans {a b c : Bytes} (h1 : bcmp a b ≠ .gt) (h2 : bcmp b c ≠ .gt) : bcmp a c ≠ .gt :=
  Ordering.ne_gt_iff_isLE.mpr (TransCmp.isLE_trans (Ordering.ne_gt_iff_isLE.mp h1) (Ordering.ne_gt_iff_isLE.mp h2))

theorem bcmp_le_of_gt {a b : Bytes} (h : bcmp a b = .gt) : bcmp b a ≠ .gt := by
  rw [(bcmp_gt_iff_lt a b).mp h]; simp

theorem bcmp_cons_lt_iff (a b : UInt8) (x y : Bytes) : bcmp (a :: x) (b :: y) = .lt ↔ a < b ∨ (a = b ∧ bcmp x y = .lt) := by
  rw [bcmp]
  by_cases h1 : a < b
  · simp [h1]
  · by_cases h2 : b < a
    · simp [h1, h2, (UInt8.ne_of_lt h2).symm]
    · obtain rfl := UInt8.le_antisymm (UInt8.not_lt.mp h2) (UInt8.not_lt.mp h1)
      simp

end NutsProofs
