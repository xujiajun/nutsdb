/-
  NutsProofs.Lemmas.BPTreeRefine — the B+ tree refines the sorted association list the DB model uses as
  its index: `Tree.insert` = `upsert` on the leaf chain (well-formedness preserved, splits included),
  `Tree.find` = `aget?`, `findRange` = the filter `start ≤ key ≤ end`, and the block a prefix scan walks =
  the list-level block of `prefixWalk`.
-/
import NutsProofs.Lemmas.BPTreeIns
namespace NutsProofs.BPT
open Nuts Nuts.Model.BPTree Nuts.Model.DB

variable {α : Type}

/-! ### list facts -/

/-- the overwrite of `Record.UpdateRecord`, on a list -/
def setVal (k : Bytes) (v : α) (p : Bytes × α) : Bytes × α := if bcmp k p.1 == .eq then (p.1, v) else p

theorem setVal_fst (k : Bytes) (v : α) (p : Bytes × α) : (setVal k v p).1 = p.1 := by
  unfold setVal; split <;> rfl

theorem map_setVal_id (l : List (Bytes × α)) (k : Bytes) (v : α) (h : ∀ p ∈ l, bcmp k p.1 ≠ .eq) :
    l.map (setVal k v) = l := by
  rw [List.map_congr_left (g := id) fun p hp => by simp [setVal, h p hp], List.map_id]

theorem map_setVal_append_below {a : List (Bytes × α)} (b : List (Bytes × α)) {k : Bytes} (v : α)
    (ha : ∀ p ∈ a, bcmp p.1 k = .lt) : (a ++ b).map (setVal k v) = a ++ b.map (setVal k v) := by
  rw [List.map_append, map_setVal_id a k v fun p hp => ne_of_lt (ha p hp)]

theorem map_setVal_append_above (a : List (Bytes × α)) {b : List (Bytes × α)} {k : Bytes} (v : α)
    (hb : ∀ p ∈ b, bcmp k p.1 = .lt) : (a ++ b).map (setVal k v) = a.map (setVal k v) ++ b := by
  rw [List.map_append, map_setVal_id b k v fun p hp => by simp [hb p hp]]

theorem upsert_eq_map (l : List (Bytes × α)) (k : Bytes) (v : α) (hs : Sorted l) (h : ∃ p ∈ l, bcmp k p.1 = .eq) :
    upsert l k v = l.map (setVal k v) := by
  induction l with
  | nil => obtain ⟨p, hp, _⟩ := h; cases hp
  | cons q rest ih =>
    obtain ⟨hq, hs⟩ := sorted_cons.mp hs
    simp only [upsert, List.map_cons, setVal]
    cases hc : bcmp k q.1 with
    | lt =>
      obtain ⟨p, hp, hpe⟩ := h
      rcases List.mem_cons.mp hp with rfl | hp
      · rw [hc] at hpe; cases hpe
      · rw [bcmp_lt_trans hc (hq p hp)] at hpe; cases hpe
    | eq =>
      obtain rfl := (bcmp_eq_iff k q.1).mp hc
      exact congrArg _ (map_setVal_id rest _ v fun p hp => by rw [hq p hp]; nofun).symm
    | gt =>
      obtain ⟨p, hp, hpe⟩ := h
      rcases List.mem_cons.mp hp with rfl | hp
      · rw [hc] at hpe; cases hpe
      · exact congrArg _ (ih hs ⟨p, hp, hpe⟩)

theorem lookup_eq_aget (l : List (Bytes × α)) (k : Bytes) : lookup l k = aget? l k := by
  rw [← find_eq_aget, lookup]
  congr 2
  funext p
  exact Bool.eq_iff_iff.mpr (by simpa only [beq_iff_eq, bcmp_eq_iff, decide_eq_true_eq] using eq_comm)

theorem lookup_isSome (l : List (Bytes × α)) (k : Bytes) : (lookup l k).isSome ↔ ∃ p ∈ l, bcmp k p.1 = .eq := by
  simp only [lookup, Option.isSome_map, List.find?_isSome, beq_iff_eq]

/-! ### overwrite -/

mutual
theorem Node.update_spec : (n : Node α) → n.WF → ∀ k v,
    (n.update k v).toList = n.toList.map (setVal k v) ∧ (n.update k v).keys = n.keys ∧ (n.update k v).WF
  | .leaf kvs, h, k, v => by
    have hk : (kvs.map (setVal k v)).map (·.1) = kvs.map (·.1) := by simp [setVal_fst]
    exact ⟨rfl, hk, by simpa [Node.update] using h.1, (List.pairwise_map (f := setVal k v)).mpr (by simpa only [setVal_fst] using h.2)⟩
  | .inner c0 rest, ⟨h0, hr, hb⟩, k, v => by
    have hrs := Rest.update_spec rest hr k v
    simp only [Node.update]
    cases hru : rest.update k v with
    | some rest' =>
      obtain ⟨⟨s, hs, hks⟩, hfs, htl, hkeys, hwf⟩ := hrs.2 rest' hru
      exact ⟨by rw [Node.toList, htl, Node.toList, map_setVal_append_below _ _ (Node.below (hb s hs) hks)],
        by rw [Node.keys, hkeys, Node.keys], h0, hwf, hfs ▸ hb⟩
    | none =>
      obtain ⟨hctl, hckeys, hcwf⟩ := Node.update_spec c0 h0 k v
      exact ⟨by rw [Node.toList, hctl, Node.toList, map_setVal_append_above _ _ (Rest.above hr (hrs.1 hru))],
        by rw [Node.keys, hckeys, Node.keys], hcwf, hr, hckeys ▸ hb⟩
theorem Rest.update_spec : (r : Rest α) → r.WF → ∀ k v,
    (r.update k v = none → ∀ s, Rest.firstSep r = some s → bcmp k s = .lt) ∧
    (∀ r', r.update k v = some r' →
      (∃ s, Rest.firstSep r = some s ∧ bcmp k s ≠ .lt) ∧ Rest.firstSep r' = Rest.firstSep r ∧
      r'.toList = r.toList.map (setVal k v) ∧ r'.keys = r.keys ∧ r'.WF)
  | .nil, _, k, v => by simp [Rest.update, Rest.firstSep]
  | .cons sep child tl, ⟨hc, hge, ht, hb⟩, k, v => by
    simp only [Rest.update]
    by_cases hlt : bcmp k sep = .lt
    · simp [hlt, Rest.firstSep]
    · have hts := Rest.update_spec tl ht k v
      simp only [beq_iff_eq, hlt, if_false]
      cases htu : tl.update k v with
      | some tl' =>
        obtain ⟨⟨s, hs, hks⟩, hfs, htl, hkeys, hwf⟩ := hts.2 tl' htu
        exact spec_of_some ⟨⟨sep, rfl, hlt⟩, rfl,
          by rw [Rest.toList, htl, Rest.toList, map_setVal_append_below _ _ (Node.below (hb s hs).1 hks)],
          by rw [Rest.keys, hkeys, Rest.keys], hc, hge, hwf, hfs ▸ hb⟩
      | none =>
        obtain ⟨hctl, hckeys, hcwf⟩ := Node.update_spec child hc k v
        exact spec_of_some ⟨⟨sep, rfl, hlt⟩, rfl,
          by rw [Rest.toList, hctl, Rest.toList, map_setVal_append_above _ _ (Rest.above ht (hts.1 htu))],
          by rw [Rest.keys, hckeys, Rest.keys], hcwf, hckeys ▸ hge, ht, hckeys ▸ hb⟩
end

/-! ### the tree -/

def Tree.WF (t : Tree α) : Prop := ∀ n, t = some n → n.WF

theorem Tree.sorted (t : Tree α) (h : Tree.WF t) : Sorted t.toList := by
  cases t with
  | none => exact List.Pairwise.nil
  | some n => exact Node.sorted n (h n rfl)

/-- `Find` on the tree = lookup in the sorted association list -/
theorem Tree.find_eq_aget (t : Tree α) (h : Tree.WF t) (k : Bytes) : t.find k = aget? t.toList k := by
  cases t with
  | none => rfl
  | some n => exact (Node.find_eq n (h n rfl) k).trans (lookup_eq_aget _ k)

/-- the root after an insertion (a root split makes a new root) -/
def Ins.root : Ins α → Node α
  | .one n => n
  | .split l s r => .inner l (.cons s r .nil)

theorem Ins.root_spec {i : Ins α} (hi : i.WF) : (Ins.root i).toList = i.toList ∧ (Ins.root i).WF := by
  cases i with
  | one n => exact ⟨rfl, hi⟩
  | split l s r =>
    obtain ⟨hl, hr, hlt, hge⟩ := hi
    exact ⟨by simp [Ins.root, Ins.toList, Node.toList, Rest.toList],
      hl, ⟨hr, hge, trivial, nofun⟩, by rintro _ ⟨⟩; exact hlt⟩

theorem Tree.insert_some (n : Node α) (k : Bytes) (v : α) :
    Tree.insert (some n) k v = some (if (n.find k).isSome then n.update k v else Ins.root (n.ins k v)) := by
  simp only [Tree.insert]
  split
  · rfl
  · cases n.ins k v <;> rfl

/-- `Insert` on the tree = `upsert` on the sorted association list, every leaf and inner split included -/
theorem Tree.insert_refines (t : Tree α) (h : Tree.WF t) (k : Bytes) (v : α) :
    (Tree.insert t k v).toList = upsert t.toList k v ∧ Tree.WF (Tree.insert t k v) := by
  cases t with
  | none => exact ⟨rfl, by rintro _ ⟨⟩; simp [Node.WF]⟩
  | some n =>
    have hn := h n rfl
    have hfind : (n.find k).isSome ↔ ∃ p ∈ n.toList, bcmp k p.1 = .eq := by rw [Node.find_eq n hn k, lookup_isSome]
    rw [Tree.insert_some]
    simp only [Tree.toList]
    split
    · rename_i hf
      obtain ⟨htl, _, hwf⟩ := Node.update_spec n hn k v
      exact ⟨by rw [htl, upsert_eq_map n.toList k v (Node.sorted n hn) (hfind.mp hf)], by rintro _ ⟨⟩; exact hwf⟩
    · rename_i hf
      have hk : ∀ p ∈ n.toList, bcmp k p.1 ≠ .eq := fun p hp he => hf (hfind.mpr ⟨p, hp, he⟩)
      obtain ⟨htl, hwf, _⟩ := Node.ins_spec n hn k v hk
      obtain ⟨h1, h2⟩ := Ins.root_spec hwf
      exact ⟨by rw [h1, htl, upsert_eq_leafInsert n.toList k v hk], by rintro _ ⟨⟩; exact h2⟩

/-- `Tree.insert_refines` along every history of insertions from the empty tree -/
theorem Tree.inserts_refine (ops : List (Bytes × α)) :
    Tree.WF (ops.foldl (fun t p => Tree.insert t p.1 p.2) (none : Tree α)) ∧
    (ops.foldl (fun t p => Tree.insert t p.1 p.2) (none : Tree α)).toList =
      ops.foldl (fun m p => upsert m p.1 p.2) [] := by
  suffices H : ∀ (t : Tree α), Tree.WF t →
      Tree.WF (ops.foldl (fun t p => Tree.insert t p.1 p.2) t) ∧
      (ops.foldl (fun t p => Tree.insert t p.1 p.2) t).toList = ops.foldl (fun m p => upsert m p.1 p.2) t.toList from
    H none nofun
  induction ops with
  | nil => exact fun t ht => ⟨ht, rfl⟩
  | cons p rest ih =>
    intro t ht
    obtain ⟨h1, h2⟩ := Tree.insert_refines t ht p.1 p.2
    simpa only [List.foldl_cons, h1] using ih _ h2

/-! ### scans: the leaf `FindLeaf(key)` reaches and the chain after it -/

/-- `ab.1` is the leaf the descent for `k` reaches, `ab.2` the leaf chain behind it -/
def FromSpec (l : List (Bytes × α)) (k : Bytes) (ab : List (Bytes × α) × List (Bytes × α)) : Prop :=
  ∃ pre, l = pre ++ ab.1 ++ ab.2 ∧ (∀ p ∈ pre, bcmp p.1 k = .lt) ∧ (∀ p ∈ ab.2, bcmp k p.1 = .lt)

theorem FromSpec.append_below {c l : List (Bytes × α)} {k : Bytes} {ab : List (Bytes × α) × List (Bytes × α)}
    (hc : ∀ p ∈ c, bcmp p.1 k = .lt) : FromSpec l k ab → FromSpec (c ++ l) k ab
  | ⟨pre, heq, hpre, hpost⟩ => ⟨c ++ pre, by simp [heq], List.forall_mem_append.mpr ⟨hc, hpre⟩, hpost⟩

theorem FromSpec.append_above {l r : List (Bytes × α)} {k : Bytes} {ab : List (Bytes × α) × List (Bytes × α)}
    (hr : ∀ p ∈ r, bcmp k p.1 = .lt) : FromSpec l k ab → FromSpec (l ++ r) k (ab.1, ab.2 ++ r)
  | ⟨pre, heq, hpre, hpost⟩ => ⟨pre, by simp [heq], hpre, List.forall_mem_append.mpr ⟨hpost, hr⟩⟩

mutual
theorem Node.leavesFrom_spec : (n : Node α) → n.WF → ∀ k, FromSpec n.toList k (n.leavesFrom k)
  | .leaf kvs, _, k => ⟨[], by simp [Node.leavesFrom, Node.toList], nofun, nofun⟩
  | .inner c0 rest, ⟨h0, hr, hb⟩, k => by
    have hrs := Rest.leavesFrom_spec rest hr k
    simp only [Node.leavesFrom, Node.toList]
    cases hrl : rest.leavesFrom k with
    | some ab =>
      obtain ⟨⟨s, hs, hks⟩, hab⟩ := hrs.2 ab hrl
      exact hab.append_below (Node.below (hb s hs) hks)
    | none => exact (Node.leavesFrom_spec c0 h0 k).append_above (Rest.above hr (hrs.1 hrl))
theorem Rest.leavesFrom_spec : (r : Rest α) → r.WF → ∀ k,
    (r.leavesFrom k = none → ∀ s, Rest.firstSep r = some s → bcmp k s = .lt) ∧
    (∀ ab, r.leavesFrom k = some ab → (∃ s, Rest.firstSep r = some s ∧ bcmp k s ≠ .lt) ∧ FromSpec r.toList k ab)
  | .nil, _, k => by simp [Rest.leavesFrom, Rest.firstSep]
  | .cons sep child tl, ⟨hc, _, ht, hb⟩, k => by
    simp only [Rest.leavesFrom, Rest.toList]
    by_cases hlt : bcmp k sep = .lt
    · simp [hlt, Rest.firstSep]
    · have hts := Rest.leavesFrom_spec tl ht k
      simp only [beq_iff_eq, hlt, if_false]
      cases htl : tl.leavesFrom k with
      | some ab' =>
        obtain ⟨⟨s, hs, hks⟩, hab⟩ := hts.2 ab' htl
        exact spec_of_some ⟨⟨sep, rfl, hlt⟩, hab.append_below (Node.below (hb s hs).1 hks)⟩
      | none =>
        exact spec_of_some ⟨⟨sep, rfl, hlt⟩, (Node.leavesFrom_spec child hc k).append_above (Rest.above ht (hts.1 htl))⟩
end

/-- what every scan starts from: skipping the keys below `k` in the first leaf only (as the Go loops do)
is skipping them in the whole leaf chain -/
theorem Tree.scan_start (t : Tree α) (h : Tree.WF t) (k : Bytes) :
    ((t.leavesFrom k).1.dropWhile fun p => bcmp p.1 k == .lt) ++ (t.leavesFrom k).2 =
    t.toList.dropWhile fun p => bcmp p.1 k == .lt := by
  cases t with
  | none => rfl
  | some n =>
    obtain ⟨pre, heq, hpre, hpost⟩ := Node.leavesFrom_spec n (h n rfl) k
    simp only [Tree.leavesFrom, Tree.toList]
    rw [heq, List.append_assoc, List.dropWhile_append_of_pos fun p hp => by simp [hpre p hp],
      dropWhile_append_none _ _ _ fun p hp => by simp [(bcmp_gt_iff_lt _ _).mpr (hpost p hp)]]

theorem range_eq_filter_sorted (l : List (Bytes × α)) (st en : Bytes) (hs : Sorted l) :
    ((l.dropWhile fun p => bcmp p.1 st == .lt).takeWhile fun p => bcmp p.1 en != .gt) =
      l.filter fun p => ble st p.1 && ble p.1 en := by
  rw [dropWhile_takeWhile_eq_filter _ _ l (hs.imp fun {a b} hab =>
    ⟨fun h => by simpa using bcmp_lt_trans hab (by simpa using h), fun h => Or.inr ?_⟩)]
  · refine List.filter_congr fun p _ => ?_
    simp only [ble, bcmp_swap p.1 st]
    cases bcmp p.1 st <;> rfl
  · simp only [bne_iff_ne, ne_eq, bcmp_gt_iff_lt] at h ⊢
    exact fun h' => h (bcmp_lt_trans h' hab)

/-- `findRange` on the tree = the records with `start ≤ key ≤ end` (what `DB.rangeScan` selects) -/
theorem Tree.range_eq_filter (t : Tree α) (h : Tree.WF t) (st en : Bytes) :
    Tree.range t st en = t.toList.filter fun p => ble st p.1 && ble p.1 en := by
  unfold Tree.range
  rw [← range_eq_filter_sorted t.toList st en (Tree.sorted t h), ← Tree.scan_start t h st]

theorem prefix_go_eq (off lim : Int) (mt : Bytes → Bool) (l : List (Bytes × Idx)) (c : Int) (acc : List (Bytes × Idx)) :
    ((Tree.prefixScan.go off lim mt l c acc).1.map (·.2), (Tree.prefixScan.go off lim mt l c acc).2) =
      prefixWalk.go off lim mt l c (acc.map (·.2)) := by
  induction l generalizing c acc with
  | nil => simp [Tree.prefixScan.go, prefixWalk.go]
  | cons p rest ih =>
    unfold Tree.prefixScan.go prefixWalk.go
    split
    · exact ih _ _
    · split
      · exact ih _ _
      · simp only [List.length_append, List.length_map, List.length_cons, List.length_nil]
        split
        · simp
        · simpa using ih c (acc ++ [p])

/-- `PrefixScan` / `PrefixSearchScan` on the tree return the records (and the final offset counter) that
`DB.prefixWalk` returns on the sorted association list -/
theorem Tree.prefixScan_eq_walk (t : Tree Idx) (h : Tree.WF t) (pre : Bytes) (off lim : Int) (mt : Bytes → Bool) :
    ((Tree.prefixScan t pre off lim mt).1.map (·.2), (Tree.prefixScan t pre off lim mt).2) =
      prefixWalk t.toList pre off lim mt := by
  unfold Tree.prefixScan prefixWalk
  simp only []
  rw [Tree.scan_start t h pre]
  exact prefix_go_eq off lim mt _ 0 []

end NutsProofs.BPT
