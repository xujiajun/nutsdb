/-
  NutsProofs.Lemmas.MergeReopen — reopening a directory that Merge has worked on (completely, or up to any
  point between two of its files): under `MergeKV.MInv` the log in the files holds, for every key that still
  has a record, the very record the index entry of that key caches; the entries whose key has no record left
  are dead. So `Open` rebuilds the index minus dead entries, and every read that filters dead records answers
  as before, at the time of the Merge and at any later time.
-/
import NutsProofs.Lemmas.MergeReads
namespace NutsProofs.MergeKV
open Nuts Nuts.Model Nuts.Model.DB NutsProofs.Reopen NutsProofs.KVRefine
open Nuts.Spec.DB (live)

/-! ### what `Open` builds from the files of such a state -/

theorem committed_of_marks (L : List LogRec) (h : MarkedLog L) : ∀ x ∈ L, x.1.txid ∈ committedIds L := by
  intro x hx
  obtain ⟨y, hy, hys, hyt, _⟩ := h x hx
  rw [Replay.mem_committedIds]
  exact ⟨y, hy, hys, hyt⟩

/-- a key is still in the log -/
def inLog (L : List LogRec) (b k : Bytes) : Prop := ∃ x ∈ L, x.1.bucket = b ∧ x.1.key = k

/-- **the rebuilt index against the old one**: a key with a record left has its old entry (status byte
normalised); a key with none has no entry — and its old entry, if any, is dead -/
theorem look_rebuilt (s : State) (now : Nat) (h : MInv s now) (b k : Bytes) :
    (inLog (allRecs s.files) b k → ∃ i, look s.kv b k = some i ∧ look (kvOfLog (allRecs s.files)) b k = some (normIdx i)) ∧
    (¬ inLog (allRecs s.files) b k → look (kvOfLog (allRecs s.files)) b k = none ∧
      ∀ i, look s.kv b k = some i → dead i.r now = true) := by
  rw [look_kvOfLog]
  cases hy : lastOf (allRecs s.files) b k with
  | some y =>
    refine ⟨fun _ => ?_, fun hno => absurd ⟨y, lastOf_some hy⟩ hno⟩
    have := h.agrees.onLog b k y hy
    cases hl : look s.kv b k with
    | none => rw [hl] at this; cases this
    | some i => rw [hl] at this; exact ⟨i, rfl, this.symm⟩
  | none =>
    refine ⟨fun ⟨x, hx, hxk⟩ => absurd hxk (lastOf_none.mp hy x hx), fun _ => ⟨rfl, fun i hi => ?_⟩⟩
    exact (h.agrees.offLog b k i hy hi).2.2.1

/-! ### the live pairs are the same -/

theorem live_mono (r : Rec) (now t : Nat) (hle : now ≤ t) (hf : r.flag = flagSet ∨ r.flag = flagDelete)
    (hb : r.ts + r.ttl < 2 ^ 64) (ht : t < 2 ^ 64) (hd : dead r now = true) : dead r t = true := by
  have hn : now < 2 ^ 64 := by omega
  unfold dead at *
  rw [isExpired_eq_not_live r.value r.ttl r.ts now hb hn] at hd
  rw [isExpired_eq_not_live r.value r.ttl r.ts t hb ht]
  unfold live at *
  simp only [Bool.or_eq_true, beq_iff_eq, Bool.not_eq_true', Bool.or_eq_false_iff, decide_eq_false_iff_not,
    beq_eq_false_iff_ne, ne_eq] at hd ⊢
  rcases hd with h1 | ⟨h1, h2⟩
  · exact Or.inl h1
  · exact Or.inr ⟨h1, by omega⟩

theorem MInv.idxOk {s : State} {now : Nat} (h : MInv s now) :
    AllIdx s.kv fun k i => (i.r.flag = flagSet ∨ i.r.flag = flagDelete) ∧ i.r.ts + i.r.ttl < 2 ^ 64 ∧ i.r.key = k :=
  fun b m p hb hp => ⟨(h.idxok b m p hb hp).1, (h.idxok b m p hb hp).2, (h.hints b m p hb hp).1⟩

/-- **same live pairs**, bucket by bucket, at the time of the Merge and later -/
theorem live_rebuilt (s : State) (now : Nat) (h : MInv s now) (b : Bytes) (t : Nat) (hle : now ≤ t) (ht : t < 2 ^ 64) :
    liveBucket (absBucket ((aget? (kvOfLog (allRecs s.files)) b).getD [])) t =
      liveBucket (absBucket ((aget? s.kv b).getD [])) t := by
  obtain ⟨hsorted', _, hidx', _⟩ := kvOfLog_props (allRecs s.files) fun x hx => ⟨(h.recs x hx).2.2, h.bounds x hx⟩
  have hsA := hsorted'.bucket b
  have hokA : IdxOk _ := hidx'.bucket b
  have hsB := h.sorted.bucket b
  have hokB : IdxOk _ := h.idxOk.bucket b
  rw [liveBucket_abs _ t hokA ht, liveBucket_abs _ t hokB ht]
  apply sorted_ext _ _ ((sorted_map (fun i : Idx => i.r.value) _).mpr (hsA.filter _))
    ((sorted_map (fun i : Idx => i.r.value) _).mpr (hsB.filter _))
  intro k
  rw [aget_map (fun i : Idx => i.r.value), aget_map (fun i : Idx => i.r.value), aget_filter _ _ k hsA, aget_filter _ _ k hsB,
    aget_getD, aget_getD]
  obtain ⟨hin, hout⟩ := look_rebuilt s now h b k
  by_cases hil : inLog (allRecs s.files) b k
  · obtain ⟨i, h1, h2⟩ := hin hil
    rw [h1, h2]
    have hd : dead (normIdx i).r t = dead i.r t := rfl
    simp only [Option.filter, hd]
    split <;> rfl
  · obtain ⟨h1, h2⟩ := hout hil
    rw [h1]
    cases hl : look s.kv b k with
    | none => rfl
    | some i =>
      -- the entry is dead now, hence later too: it is not among the live pairs
      have hmem : (k, i) ∈ (aget? s.kv b).getD [] := aget_mem _ k i ((aget_getD ..).trans hl)
      obtain ⟨hfl, hbnd, _⟩ := hokB _ hmem
      simp [Option.filter, live_mono i.r now t hle hfl hbnd ht (h2 i hl)]

/-! ### reads as functions of the live pairs -/

/-- `s'` answers the unpaged reads of bucket `b` at time `t` as `s` does: same values, same pairs, same failures -/
def SameReads (s' s : State) (t : Nat) (b : Bytes) : Prop :=
  (∀ k, (DB.get s' b k t).map (Option.map (·.value)) = (DB.get s b k t).map (Option.map (·.value))) ∧
  ((getAll s' b t).map pairsOf = (getAll s b t).map pairsOf) ∧
  (∀ st en, (rangeScan s' b st en t).map pairsOf = (rangeScan s b st en t).map pairsOf) ∧
  (∀ pre mt, (prefixScan s' b pre 0 (-1) t mt).map pairsOf = (prefixScan s b pre 0 (-1) t mt).map pairsOf)

theorem SameReads.trans {s2 s1 s : State} {t : Nat} {b : Bytes} (h2 : SameReads s2 s1 t b) (h1 : SameReads s1 s t b) :
    SameReads s2 s t b :=
  ⟨fun k => (h2.1 k).trans (h1.1 k), h2.2.1.trans h1.2.1, fun st en => (h2.2.2.1 st en).trans (h1.2.2.1 st en),
    fun pre mt => (h2.2.2.2 pre mt).trans (h1.2.2.2 pre mt)⟩

theorem MInv.presents {s : State} {now : Nat} (h : MInv s now) (hm : s.opt.mode = 0) : Presents s (absKV s.kv) :=
  ⟨rfl, h.sorted, h.idxOk, fun b m p hb hp => by simpa using h.committedIdx b m p hb hp, fetches_mode0 s hm⟩

theorem sameReads_of_live {s' s : State} {A' A : Assoc (Assoc Nuts.Spec.DB.SKV)} (h' : Presents s' A') (h : Presents s A) (t : Nat)
    (ht : t < 2 ^ 64) (b : Bytes) (hlive : liveBucket ((aget? A' b).getD []) t = liveBucket ((aget? A b).getD []) t) :
    SameReads s' s t b := by
  have ⟨g1, g2, g3, g4⟩ := h.reads t ht b
  have ⟨r1, r2, r3, r4⟩ := h'.reads t ht b
  simp only [hlive] at r1 r2 r3 r4
  exact ⟨fun k => (r1 k).trans (g1 k).symm, r2.trans g2.symm, fun st en => (r3 st en).trans (g3 st en).symm,
    fun pre mt => (r4 pre mt).trans (g4 pre mt).symm⟩

theorem reads_of_rebuilt (s : State) (now : Nat) (h : MInv s now) (hm : s.opt.mode = 0) (s' : State)
    (hkv' : s'.kv = kvOfLog (allRecs s.files)) (hm' : s'.opt.mode = 0)
    (hids : ∀ id, id ∈ s'.committed ↔ id ∈ committedIds (allRecs s.files))
    (t : Nat) (hle : now ≤ t) (ht : t < 2 ^ 64) (b : Bytes) :
    (∀ k, (DB.get s' b k t).map (Option.map (·.value)) = (DB.get s b k t).map (Option.map (·.value))) ∧
    ((getAll s' b t).map pairsOf = (getAll s b t).map pairsOf) ∧
    (∀ st en, (rangeScan s' b st en t).map pairsOf = (rangeScan s b st en t).map pairsOf) ∧
    (∀ pre mt, (prefixScan s' b pre 0 (-1) t mt).map pairsOf = (prefixScan s b pre 0 (-1) t mt).map pairsOf) := by
  obtain ⟨hsorted', _, hidx', htx'⟩ := kvOfLog_props (allRecs s.files) fun x hx => ⟨(h.recs x hx).2.2, h.bounds x hx⟩
  rw [← hkv'] at hsorted' hidx' htx'
  have hp' : Presents s' (absKV s'.kv) := ⟨rfl, hsorted', hidx', fun b m p hbm hp => ?_,
    fetches_mode0 s' hm'⟩
  · exact sameReads_of_live hp' (h.presents hm) t ht b (by rw [aget_absKV, aget_absKV, hkv']; exact live_rebuilt s now h b t hle ht)
  · obtain ⟨x, hx, hxt⟩ := htx' b m p hbm hp
    have : p.2.r.txid ∈ s'.committed := hxt ▸ (hids _).mpr (committed_of_marks _ h.marks x hx)
    simpa using this

/-- **the reopen theorem**: `Open` on a directory that holds the log of a state with the invariant, followed by
unmarked records of a fresh transaction (a crash inside a commit; none: the files as they are) -/
theorem reopen_suffix_reads (s : State) (now : Nat) (h : MInv s now) (hm : s.opt.mode = 0) (opt : Opts) (hmo : opt.mode = 0)
    (fs : List File) (E : List LogRec) (hne : fs ≠ []) (hunt : ∀ g ∈ fs, g.torn = false) (hrecs : allRecs fs = allRecs s.files ++ E)
    (hEs : ∀ x ∈ E, x.1.status = 0) (hEf : ∀ x ∈ E, ∀ y ∈ allRecs s.files, y.1.txid ≠ x.1.txid)
    (t : Nat) (hle : now ≤ t) (ht : t < 2 ^ 64) (b : Bytes) :
    (openDB opt fs).2 = .ok () ∧ SameReads (openDB opt fs).1 s t b := by
  obtain ⟨hok, hkv, hids⟩ := open_ignores_uncommitted_suffix fs opt (allRecs s.files) E hne hunt hrecs (fun x hx => (h.recs x hx).1)
    (committed_of_marks _ h.marks) hEs hEf
  exact ⟨hok, reads_of_rebuilt s now h hm _ hkv (by rw [Replay.openDB_opt]; exact hmo) hids t hle ht b⟩

/-- **Reopen after Merge (or between two files of it).** A key+value-mode state with the Merge invariant,
reopened in key+value mode: `Open` succeeds, and `Get`, `GetAll`, `RangeScan`, and `PrefixScan` /
`PrefixSearchScan` without offset and limit return, at the time the invariant speaks of and at every later
time, the values and pairs they returned before the reopen. (With offset or limit the dead entries that the
reopen drops matter: finding D-SCAN-DEAD.) -/
theorem reads_after_reopen (s : State) (now : Nat) (h : MInv s now) (hm : s.opt.mode = 0) (opt : Opts) (hmo : opt.mode = 0)
    (t : Nat) (hle : now ≤ t) (ht : t < 2 ^ 64) (b : Bytes) :
    let s' := (openDB opt s.files).1
    (openDB opt s.files).2 = .ok () ∧
    (∀ k, (DB.get s' b k t).map (Option.map (·.value)) = (DB.get s b k t).map (Option.map (·.value))) ∧
    ((getAll s' b t).map pairsOf = (getAll s b t).map pairsOf) ∧
    (∀ st en, (rangeScan s' b st en t).map pairsOf = (rangeScan s b st en t).map pairsOf) ∧
    (∀ pre mt, (prefixScan s' b pre 0 (-1) t mt).map pairsOf = (prefixScan s b pre 0 (-1) t mt).map pairsOf) :=
  reopen_suffix_reads s now h hm opt hmo s.files [] h.shape.files_ne h.shape.untorn (by simp) nofun nofun t hle ht b

/-! ### before Merge, after Merge, after the reopen -/

theorem absKV_of_vis {kv' kv : Assoc (Assoc Idx)} (h : visKV kv' = visKV kv) : absKV kv' = absKV kv := by
  have : ∀ kv : Assoc (Assoc Idx), absKV kv = (visKV kv).map fun p => (p.1,
      (p.2.filter fun q => q.2.2.2.2 == flagSet).map fun q => (q.1, (⟨q.2.1, q.2.2.1, q.2.2.2.1⟩ : Nuts.Spec.DB.SKV))) := by
    intro kv
    simp only [absKV, visKV, List.map_map]
    refine List.map_congr_left fun p _ => ?_
    simp only [Function.comp, absBucket, visBucket, List.filter_map, List.map_map]
    rfl
  rw [this, this, h]

theorem reads_of_vis_minv (s s' : State) (now : Nat) (h : MInv s now) (h' : MInv s' now) (hm : s.opt.mode = 0) (hm' : s'.opt.mode = 0)
    (hv : visKV s'.kv = visKV s.kv) (t : Nat) (ht : t < 2 ^ 64) (b : Bytes) :
    (∀ k, (DB.get s' b k t).map (Option.map (·.value)) = (DB.get s b k t).map (Option.map (·.value))) ∧
    ((getAll s' b t).map pairsOf = (getAll s b t).map pairsOf) ∧
    (∀ st en, (rangeScan s' b st en t).map pairsOf = (rangeScan s b st en t).map pairsOf) ∧
    (∀ pre mt, (prefixScan s' b pre 0 (-1) t mt).map pairsOf = (prefixScan s b pre 0 (-1) t mt).map pairsOf) :=
  sameReads_of_live (h'.presents hm') (h.presents hm) t ht b (by rw [absKV_of_vis hv])

/-- Merge, and then the reopen: a state reached from `s` with the invariant and the visible index of `s`, reopened -/
theorem reads_after_moves_reopen (s s1 : State) (now : Nat) (h : MInv s now) (h1 : MInv s1 now) (hm : s.opt.mode = 0)
    (hopt : s1.opt = s.opt) (hv : visKV s1.kv = visKV s.kv) (opt : Opts) (hmo : opt.mode = 0)
    (t : Nat) (hle : now ≤ t) (ht : t < 2 ^ 64) (b : Bytes) :
    (openDB opt s1.files).2 = .ok () ∧ SameReads (openDB opt s1.files).1 s t b := by
  have hm1 : s1.opt.mode = 0 := hopt ▸ hm
  obtain ⟨hok, hr⟩ := reads_after_reopen s1 now h1 hm1 opt hmo t hle ht b
  exact ⟨hok, SameReads.trans hr (reads_of_vis_minv s s1 now h h1 hm hm1 hv t ht b)⟩

end NutsProofs.MergeKV
