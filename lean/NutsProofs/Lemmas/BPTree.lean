/-
  NutsProofs.Lemmas.BPTree — the B+ tree of Nuts.Model.BPTree refines the sorted association list. Under the
  model's well-formedness `WF` (separators bound the subtrees, leaves sorted): the leaf chain is sorted, the two
  facts every separator-guided descent rests on (`Rest.above`, `Node.below`), `Find` = list lookup.
-/
import Nuts.Model.BPTree
import NutsProofs.Lemmas.Assoc
namespace NutsProofs.BPT
open Nuts Nuts.Model.BPTree

variable {α : Type}

theorem ne_of_lt {a b : Bytes} (h : bcmp a b = .lt) : bcmp b a ≠ .eq := by
  rw [bcmp_swap, h]; simp [Ordering.swap]

mutual
theorem Node.mem_keys : (n : Node α) → ∀ p ∈ n.toList, p.1 ∈ n.keys
  | .leaf kvs, p, hp => List.mem_map_of_mem (f := (·.1)) hp
  | .inner c0 rest, p, hp => by
    simp only [Node.toList, Node.keys, List.mem_append] at hp ⊢
    exact hp.imp (Node.mem_keys c0 p) (Rest.mem_keys rest p)
theorem Rest.mem_keys : (r : Rest α) → ∀ p ∈ r.toList, p.1 ∈ r.keys
  | .nil, p, hp => by simp [Rest.toList] at hp
  | .cons sep child tl, p, hp => by
    simp only [Rest.toList, Rest.keys, List.mem_cons, List.mem_append] at hp ⊢
    exact Or.inr (hp.imp (Node.mem_keys child p) (Rest.mem_keys tl p))
end

theorem lt_of_bounds {c : Node α} {r : Rest α} (hb : ∀ s, Rest.firstSep r = some s → AllLt s c.keys)
    (hge : ∀ s, Rest.firstSep r = some s → AllGe s r.keys) :
    ∀ x ∈ c.toList, ∀ y ∈ r.toList, bcmp x.1 y.1 = .lt := by
  intro x hx y hy
  cases r with
  | nil => simp [Rest.toList] at hy
  | cons s _ _ =>
    exact bcmp_lt_of_lt_of_ge (hb s rfl x.1 (Node.mem_keys c x hx)) (hge s rfl y.1 (Rest.mem_keys _ y hy))

mutual
theorem Node.sorted : (n : Node α) → n.WF → Sorted n.toList
  | .leaf kvs, h => h.2
  | .inner c0 rest, ⟨h0, hr, hb⟩ => by
    have hs := Rest.sorted rest hr
    exact List.pairwise_append.mpr ⟨Node.sorted c0 h0, hs.1, lt_of_bounds hb hs.2⟩
theorem Rest.sorted : (r : Rest α) → r.WF → Sorted r.toList ∧ (∀ s, Rest.firstSep r = some s → AllGe s r.keys)
  | .nil, _ => by simp [Rest.toList, Sorted, Rest.firstSep]
  | .cons sep child tl, ⟨hc, hge, ht, hb⟩ => by
    have hs := Rest.sorted tl ht
    refine ⟨List.pairwise_append.mpr ⟨Node.sorted child hc, hs.1, lt_of_bounds (fun s h => (hb s h).1) hs.2⟩, ?_⟩
    rintro s ⟨⟩ x hx
    simp only [Rest.keys, List.mem_cons, List.mem_append] at hx
    rcases hx with rfl | hx | hx
    · rw [bcmp_refl]; simp
    · exact hge x hx
    · cases tl with
      | nil => simp [Rest.keys] at hx
      | cons s' _ _ => exact bcmp_ge_trans (hs.2 s' rfl x hx) (by rw [(bcmp_gt_iff_lt _ _).mpr (hb s' rfl).2]; simp)
end

/-! ### the two facts of a descent

A descent compares the key with a separator and goes on on one side of it. Going left is right because
everything from the separator on is above the key (`Rest.above`), going right because everything before the
separator is below it (`Node.below`); each traversal below applies these to its own list operation. -/

theorem Rest.above {r : Rest α} (hr : r.WF) {k : Bytes}
    (hlt : ∀ s, Rest.firstSep r = some s → bcmp k s = .lt) : ∀ p ∈ r.toList, bcmp k p.1 = .lt := by
  intro p hp
  cases r with
  | nil => simp [Rest.toList] at hp
  | cons s _ _ => exact bcmp_lt_of_lt_of_ge (hlt s rfl) ((Rest.sorted _ hr).2 s rfl p.1 (Rest.mem_keys _ p hp))

theorem Node.below {c : Node α} {s k : Bytes} (hl : AllLt s c.keys) (hk : bcmp k s ≠ .lt) :
    ∀ p ∈ c.toList, bcmp p.1 k = .lt :=
  fun p hp => bcmp_lt_of_lt_of_ge (hl p.1 (Node.mem_keys c p hp)) hk

/-- the form the statements about `Rest.ins`, `Rest.update`, `Rest.leavesFrom` take when the result is there -/
theorem spec_of_some {β} {x : β} {P : Prop} {Q : β → Prop} (h : Q x) :
    ((some x : Option β) = none → P) ∧ (∀ r', some x = some r' → Q r') :=
  ⟨nofun, fun _ e => Option.some.inj e ▸ h⟩

/-! ### Find = lookup in the leaf chain -/

def lookup (l : List (Bytes × α)) (k : Bytes) : Option α := (l.find? fun p => bcmp k p.1 == .eq).map (·.2)

theorem lookup_eq_none {l : List (Bytes × α)} {k : Bytes} (h : ∀ p ∈ l, bcmp k p.1 ≠ .eq) : lookup l k = none := by
  simp only [lookup, Option.map_eq_none_iff, List.find?_eq_none, beq_iff_eq]
  exact h

theorem lookup_append (a b : List (Bytes × α)) (k : Bytes) : lookup (a ++ b) k = (lookup a k).or (lookup b k) := by
  simp [lookup, List.find?_append, Option.map_or]

theorem lookup_append_above {a b : List (Bytes × α)} {k : Bytes} (hb : ∀ p ∈ b, bcmp k p.1 = .lt) :
    lookup (a ++ b) k = lookup a k := by
  rw [lookup_append, lookup_eq_none (l := b) fun p hp => by simp [hb p hp], Option.or_none]

theorem lookup_append_below {a b : List (Bytes × α)} {k : Bytes} (ha : ∀ p ∈ a, bcmp p.1 k = .lt) :
    lookup (a ++ b) k = lookup b k := by
  rw [lookup_append, lookup_eq_none (l := a) fun p hp => ne_of_lt (ha p hp), Option.none_or]

mutual
theorem Node.find_eq : (n : Node α) → n.WF → ∀ k, n.find k = lookup n.toList k
  | .leaf kvs, _, k => rfl
  | .inner c0 rest, ⟨h0, hr, hb⟩, k => by
    have hf := Rest.find_eq rest hr k
    simp only [Node.find, Node.toList]
    cases hfr : rest.find k with
    | none => rw [hfr] at hf; rw [Node.find_eq c0 h0 k, lookup_append_above (Rest.above hr hf)]
    | some res =>
      rw [hfr] at hf
      obtain ⟨s, hs, hk, rfl⟩ := hf
      exact (lookup_append_below (Node.below (hb s hs) hk)).symm
theorem Rest.find_eq : (r : Rest α) → r.WF → ∀ k,
    match r.find k with
    | none => ∀ s, Rest.firstSep r = some s → bcmp k s = .lt
    | some res => ∃ s, Rest.firstSep r = some s ∧ bcmp k s ≠ .lt ∧ res = lookup r.toList k
  | .nil, _, k => by simp [Rest.find, Rest.firstSep]
  | .cons sep child tl, ⟨hc, _, ht, hb⟩, k => by
    simp only [Rest.find, Rest.firstSep, Rest.toList]
    by_cases hlt : bcmp k sep = .lt
    · simp [hlt]
    · have hf := Rest.find_eq tl ht k
      simp only [beq_iff_eq, hlt, if_false]
      cases hft : tl.find k with
      | none =>
        rw [hft] at hf
        exact ⟨sep, rfl, hlt, by rw [Node.find_eq child hc k, lookup_append_above (Rest.above ht hf)]⟩
      | some res =>
        rw [hft] at hf
        obtain ⟨s', hs', hk', rfl⟩ := hf
        exact ⟨sep, rfl, hlt, (lookup_append_below (Node.below (hb s' hs').1 hk')).symm⟩
end

end NutsProofs.BPT
