/-
  NutsProofs.Lemmas.Isolation — buckets do not interfere, at the level of whole histories.

  What a bucket holds — its key/value index (keys, order, cached records), its list, set and sorted-set
  structures — is a function of the records that *name that bucket*, in log order: every record of any other
  bucket can be dropped from the log without changing it (`foldSV_project`, `foldLog_project`). Bucket names
  are compared as whole byte strings by the per-bucket maps, so names that are prefixes of each other, empty
  names, and bucket+key concatenations that coincide are all covered: the only hypothesis is `≠`.
-/
import NutsProofs.Lemmas.ReopenAll
namespace NutsProofs.Isolation
open Nuts Nuts.Model Nuts.Model.DB NutsProofs.Reopen NutsProofs.ReopenAll

/-- **projection of a fold onto a bucket.** What the state holds for a bucket (`view`) is untouched by a record that
names another (`frame`), and what a record does to its own bucket depends on that bucket's view only (`congr`). -/
theorem fold_project {σ ρ β : Type} (step : σ → ρ → σ) (key : ρ → Bytes) (view : σ → Bytes → β)
    (frame : ∀ s r b, b ≠ key r → view (step s r) b = view s b)
    (congr : ∀ s s' r, view s (key r) = view s' (key r) → view (step s r) (key r) = view (step s' r) (key r))
    (rs : List ρ) (s s' : σ) (b : Bytes) (h : view s b = view s' b) :
    view (rs.foldl step s) b = view ((rs.filter fun r => key r == b).foldl step s') b := by
  induction rs generalizing s s' with
  | nil => exact h
  | cons r rest ih =>
    rw [List.foldl_cons, List.filter_cons]
    by_cases hb : key r = b
    · rw [if_pos (by simpa using hb), List.foldl_cons]
      exact ih _ _ (hb ▸ congr s s' r (hb ▸ h))
    · rw [if_neg (by simpa using hb)]
      exact ih _ _ ((frame s r b fun e => hb e.symm).trans h)

/-! ### lists, sets, sorted sets -/

/-- what bucket `b` holds in the three structure maps -/
def viewSV (v : SV) (b : Bytes) : Option ListDS.St × Option SetDS.St × Option ZSetA.St :=
  (aget? v.lists b, aget? v.sets b, aget? v.zsets b)

theorem stepSV_frame (v : SV) (r : Rec) (c : Bool) (b : Bytes) (h : b ≠ r.bucket) :
    viewSV (stepSV v r c).1 b = viewSV v b := by
  rw [stepSV_eq]
  unfold viewSV
  simp only [aget_ite_aput, if_neg (fun e : _ ∧ b = r.bucket => h e.2)]

theorem stepSV_congr (v v' : SV) (r : Rec) (c : Bool) (h : viewSV v r.bucket = viewSV v' r.bucket) :
    viewSV (stepSV v r c).1 r.bucket = viewSV (stepSV v' r c).1 r.bucket := by
  have hl : aget? v.lists r.bucket = aget? v'.lists r.bucket := congrArg (·.1) h
  have hs : aget? v.sets r.bucket = aget? v'.sets r.bucket := congrArg (·.2.1) h
  have hz : aget? v.zsets r.bucket = aget? v'.zsets r.bucket := congrArg (·.2.2) h
  rw [stepSV_eq v, stepSV_eq v']
  unfold viewSV
  simp only [aget_ite_aput, hl, hs, hz]

/-- **projection.** Folding a log and folding only its records that name `b` leave the same thing in `b`. -/
theorem foldSV_project (rs : List Rec) (v v' : SV) (b : Bytes) (c : Bool) (h : viewSV v b = viewSV v' b) :
    viewSV (foldSV v rs c) b = viewSV (foldSV v' (rs.filter fun r => r.bucket == b) c) b :=
  fold_project (fun v r => (stepSV v r c).1) (·.bucket) viewSV (fun v r b hb => stepSV_frame v r c b hb)
    (fun v v' r hv => stepSV_congr v v' r c hv) rs v v' b h

/-! ### one bucket's structures as folds of the appliers over the bucket's own records -/

/-- one of the three structure maps, seen through `get`, to which `stepSV` sends the records of structure `d`
through `app` -/
theorem foldSV_lane {α : Type} (get : SV → Assoc (List α)) (d : Nat) (app : List α → Rec → List α) (c : Bool)
    (hown : ∀ v r, r.ds = d → get (stepSV v r c).1 = aput (get v) r.bucket (app ((aget? (get v) r.bucket).getD []) r))
    (hoth : ∀ v r, r.ds ≠ d → get (stepSV v r c).1 = get v)
    (rs : List Rec) (v : SV) (b : Bytes) (hb : ∀ r ∈ rs, r.bucket = b) :
    (aget? (get (foldSV v rs c)) b).getD [] =
      (rs.filter fun r => r.ds == d).foldl app ((aget? (get v) b).getD []) := by
  induction rs generalizing v with
  | nil => rfl
  | cons r rest ih =>
    have hrb : r.bucket = b := hb r (List.mem_cons_self ..)
    rw [foldSV, List.foldl_cons, ← foldSV, ih _ fun x hx => hb x (List.mem_cons_of_mem _ hx), List.filter_cons]
    by_cases hds : r.ds = d
    · rw [if_pos (by simpa using hds), List.foldl_cons, hown v r hds, hrb, aget_aput_self]; rfl
    · rw [if_neg (by simpa using hds), hoth v r hds]

/-- the structures of bucket `b` in a state with the invariant: the appliers folded over the records of the log
that name `b`, per structure, starting from nothing -/
theorem structures_of_own_records (s : State) (h : AllInv s) (b : Bytes) :
    (aget? s.lists b).getD [] =
      ((((allRecs s.files).map (·.1)).filter fun r => r.bucket == b).filter fun r => r.ds == dsList).foldl
        (fun l r => (applyList l r).1) [] ∧
    (aget? s.sets b).getD [] =
      ((((allRecs s.files).map (·.1)).filter fun r => r.bucket == b).filter fun r => r.ds == dsSet).foldl
        (fun m r => (applySet m r).1) [] ∧
    (aget? s.zsets b).getD [] =
      ((((allRecs s.files).map (·.1)).filter fun r => r.bucket == b).filter fun r => r.ds == dsZSet).foldl
        (fun z r => (applyZSet z r false).1) [] := by
  have hproj := foldSV_project ((allRecs s.files).map (·.1)) emptySV emptySV b false rfl
  rw [← h.structs] at hproj
  have hown : ∀ r ∈ ((allRecs s.files).map (·.1)).filter (fun r => r.bucket == b), r.bucket = b :=
    fun r hr => by simpa using (List.mem_filter.mp hr).2
  exact ⟨(congrArg (·.1.getD []) hproj).trans <| foldSV_lane (·.lists) dsList _ false
      (fun v r h => by rw [stepSV_eq]; exact if_pos h) (fun v r h => by rw [stepSV_eq]; exact if_neg h) _ emptySV b hown,
    (congrArg (·.2.1.getD []) hproj).trans <| foldSV_lane (·.sets) dsSet _ false
      (fun v r h => by rw [stepSV_eq]; exact if_pos h) (fun v r h => by rw [stepSV_eq]; exact if_neg h) _ emptySV b hown,
    (congrArg (·.2.2.getD []) hproj).trans <| foldSV_lane (·.zsets) dsZSet _ false
      (fun v r h => by rw [stepSV_eq]; exact if_pos h) (fun v r h => by rw [stepSV_eq]; exact if_neg h) _ emptySV b hown⟩

/-! ### key/value -/

theorem kvPut_frame (kv : Assoc (Assoc Idx)) (r : Rec) (fid pos : Nat) (b : Bytes) (h : b ≠ r.bucket) :
    aget? (kvPut kv r fid pos) b = aget? kv b := by
  unfold kvPut
  exact aget_aput_other _ _ _ _ h

theorem kvPut_congr (kv kv' : Assoc (Assoc Idx)) (r : Rec) (fid pos : Nat) (h : aget? kv r.bucket = aget? kv' r.bucket) :
    aget? (kvPut kv r fid pos) r.bucket = aget? (kvPut kv' r fid pos) r.bucket := by
  unfold kvPut
  rw [aget_aput_self, aget_aput_self, h]

theorem foldLog_project (L : List LogRec) (kv kv' : Assoc (Assoc Idx)) (b : Bytes) (h : aget? kv b = aget? kv' b) :
    aget? (foldLog kv L) b = aget? (foldLog kv' (L.filter fun x => x.1.bucket == b)) b :=
  fold_project (fun kv (x : LogRec) => kvPut kv (committedRec x.1) x.2.1 x.2.2) (·.1.bucket) aget?
    (fun kv _ b hb => kvPut_frame kv _ _ _ b hb) (fun kv kv' _ hv => kvPut_congr kv kv' _ _ _ hv) L kv kv' b h

/-! ### the index with the file positions forgotten -/

/-- a bucket's index as keys and cached records (what every read in key+value mode returns from) -/
def recsOf (m : Assoc Idx) : Assoc Rec := m.map fun p => (p.1, p.2.r)

theorem recsOf_upsert (m : Assoc Idx) (k : Bytes) (i : Idx) : recsOf (upsert m k i) = upsert (recsOf m) k i.r :=
  upsert_map Idx.r m k i

/-- the record-only fold: one bucket's keys and cached records from its own records, positions forgotten -/
def bucketOfRecs (m : Assoc Rec) (rs : List Rec) : Assoc Rec := rs.foldl (fun m r => upsert m r.key (committedRec r)) m

theorem foldLog_own (L : List LogRec) (kv : Assoc (Assoc Idx)) (b : Bytes) (hown : ∀ x ∈ L, x.1.bucket = b) :
    recsOf ((aget? (foldLog kv L) b).getD []) = bucketOfRecs (recsOf ((aget? kv b).getD [])) (L.map (·.1)) := by
  induction L generalizing kv with
  | nil => rfl
  | cons x rest ih =>
    have hb : x.1.bucket = b := hown x (List.mem_cons_self ..)
    simp only [foldLog, List.foldl_cons, List.map_cons, bucketOfRecs]
    have := ih (kvPut kv (committedRec x.1) x.2.1 x.2.2) (fun y hy => hown y (List.mem_cons_of_mem _ hy))
    simp only [foldLog, bucketOfRecs] at this
    rw [this]
    congr 1
    unfold kvPut
    have hcb : (committedRec x.1).bucket = b := by simpa [committedRec] using hb
    rw [hcb, aget_aput_self]
    simp only [Option.getD_some]
    rw [recsOf_upsert]
    rfl

/-- **projection, key/value.** The keys and cached records of bucket `b` after a log are those after the
records of the log that name `b`, whatever lies between them and wherever they were written. -/
theorem kvOfLog_project (L : List LogRec) (b : Bytes) :
    recsOf ((aget? (kvOfLog L) b).getD []) = bucketOfRecs [] ((L.filter fun x => x.1.bucket == b).map (·.1)) := by
  have h1 := foldLog_project L [] [] b rfl
  have h2 := foldLog_own (L.filter fun x => x.1.bucket == b) [] b (by
    intro x hx
    have := (List.mem_filter.mp hx).2
    simpa using this)
  have e : kvOfLog L = foldLog [] L := rfl
  rw [e, h1, h2]
  rfl

end NutsProofs.Isolation
