/-
  NutsProofs.Lemmas.Crc — the CRC-32 shift register is a bijection of the state for every input byte,
  and an injection of the byte for every state. Kernel-only proofs (bit extensionality; no `bv_decide`).
-/
import Nuts.Model.Codec
namespace NutsProofs.Crc
open Nuts Nuts.Model.Codec

theorem poly_bit31 : poly.getLsbD 31 = true := by decide

theorem bitStep_bit31 (s : BitVec 32) : (bitStep s).getLsbD 31 = s.getLsbD 0 := by
  unfold bitStep
  split
  · rename_i h
    rw [BitVec.getLsbD_xor, BitVec.getLsbD_ushiftRight, poly_bit31, h]
    rw [BitVec.getLsbD_of_ge _ _ (by omega)]; rfl
  · rename_i h
    rw [BitVec.getLsbD_ushiftRight, BitVec.getLsbD_of_ge _ _ (by omega)]
    cases hs : s.getLsbD 0 <;> simp_all

theorem bitStep_inj {a b : BitVec 32} (h : bitStep a = bitStep b) : a = b := by
  have h0 : a.getLsbD 0 = b.getLsbD 0 := by rw [← bitStep_bit31, ← bitStep_bit31, h]
  have h1 : a >>> 1 = b >>> 1 := by
    unfold bitStep at h
    rw [h0] at h
    split at h
    · have := congrArg (· ^^^ poly) h
      simpa [BitVec.xor_assoc] using this
    · exact h
  apply BitVec.eq_of_getLsbD_eq
  intro i _
  cases i with
  | zero => exact h0
  | succ j =>
    have := congrArg (·.getLsbD j) h1
    simpa [BitVec.getLsbD_ushiftRight, Nat.add_comm] using this

theorem ofNat_byte_inj {x y : UInt8} (h : BitVec.ofNat 32 x.toNat = BitVec.ofNat 32 y.toNat) : x = y := by
  have hx : x.toNat < 256 := x.toNat_lt
  have hy : y.toNat < 256 := y.toNat_lt
  have := congrArg BitVec.toNat h
  simp [BitVec.toNat_ofNat] at this
  apply UInt8.toNat_inj.mp
  omega

theorem byteStep_inj {a b : BitVec 32} {x y : UInt8} (h : byteStep a x = byteStep b y) :
    a ^^^ BitVec.ofNat 32 x.toNat = b ^^^ BitVec.ofNat 32 y.toNat := by
  unfold byteStep at h
  exact bitStep_inj (bitStep_inj (bitStep_inj (bitStep_inj (bitStep_inj (bitStep_inj (bitStep_inj (bitStep_inj h)))))))

theorem byteStep_inj_state {a b : BitVec 32} {x : UInt8} (h : byteStep a x = byteStep b x) : a = b :=
  (BitVec.xor_left_inj _).mp (byteStep_inj h)

theorem byteStep_inj_byte {s : BitVec 32} {x y : UInt8} (h : byteStep s x = byteStep s y) : x = y :=
  ofNat_byte_inj ((BitVec.xor_right_inj _).mp (byteStep_inj h))

theorem crcFeed_inj_state (data : Bytes) {a b : BitVec 32} (h : crcFeed a data = crcFeed b data) : a = b := by
  induction data generalizing a b with
  | nil => simpa [crcFeed] using h
  | cons x rest ih =>
    simp only [crcFeed, List.foldl_cons] at h
    exact byteStep_inj_state (ih h)

theorem crcFeed_append (s : BitVec 32) (a b : Bytes) : crcFeed s (a ++ b) = crcFeed (crcFeed s a) b := by
  simp [crcFeed, List.foldl_append]

/-- **single-byte error detection**: two strings that differ in exactly one byte have different CRCs -/
theorem crc32_one_byte (p q : Bytes) (x y : UInt8) (hxy : x ≠ y) : crc32 (p ++ x :: q) ≠ crc32 (p ++ y :: q) := by
  intro h
  unfold crc32 at h
  have h := congrArg (~~~ ·) h
  simp only [BitVec.not_not] at h
  rw [crcFeed_append, crcFeed_append] at h
  simp only [crcFeed, List.foldl_cons] at h
  exact hxy (byteStep_inj_byte (crcFeed_inj_state q h))

/-- the checksum determines the register state -/
theorem crc32_append_inj (a b q : Bytes) (h : crc32 (a ++ q) = crc32 (b ++ q)) : crc32 a = crc32 b := by
  unfold crc32 at h ⊢
  have h := congrArg (~~~ ·) h
  simp only [BitVec.not_not] at h
  rw [crcFeed_append, crcFeed_append] at h
  rw [crcFeed_inj_state q h]

theorem crcUpdate_crc32 (a b : Bytes) : crcUpdate (crc32 a) b = crc32 (a ++ b) := by
  simp [crcUpdate, crc32, crcFeed_append]

theorem getCrc_eq (hdr : Bytes) (parts : List Bytes) : getCrc hdr parts = crc32 (hdr.drop 4 ++ parts.flatten) := by
  unfold getCrc
  generalize hdr.drop 4 = a
  induction parts generalizing a with
  | nil => simp
  | cons p rest ih => simp [List.foldl_cons, crcUpdate_crc32, ih, List.append_assoc]

end NutsProofs.Crc
