/-
  NutsProofs.Lemmas.ReopenObs — what the reads return after a reopen: a state whose index is the
  normalised index of another (same files, same options, same committed ids) answers every KV read with the
  same records, up to the status byte that no API returns. This is an instance of a general fact, proved here
  once from the normal forms of `Reads.lean`: the key/value reads commute with any entry-wise map `g` of the index
  that keeps what the reads look at — whether the cached record is dead, whether its transaction is committed, and
  what the caller is shown (`π`) of the record that is fetched (`Remap`; recovery is `g = normIdx`,
  `π = committedRec`; `MergeReads` uses the map that strips an entry to its visible content). The namespace is
  `NutsProofs.Reopen`, shared with Reopen.lean.
-/
import NutsProofs.Lemmas.Reopen
import NutsProofs.Lemmas.Reads
import NutsProofs.Lemmas.Paging
namespace NutsProofs.Reopen
open Nuts Nuts.Model Nuts.Model.DB

/-- what a caller sees of a record: everything but the status byte -/
def vis (o : Outcome (Option Rec)) : Outcome (Option Rec) := o.map (Option.map committedRec)
def visL (o : Outcome (List (Option Rec))) : Outcome (List (Option Rec)) := o.map (List.map (Option.map committedRec))

/-- `s'` is `s` as recovery rebuilds it: the normalised index, the same committed ids, and every cached or
hinted record reads back the same -/
structure Rebuilt (s s' : State) : Prop where
  kv : s'.kv = normKV s.kv
  ids : ∀ id, id ∈ s'.committed ↔ id ∈ s.committed
  fetch : ∀ b m p, bucketIdx s b = some m → p ∈ m → vis (fetch s' (normIdx p.2)) = vis (fetch s p.2)

theorem dead_committedRec (r : Rec) (now : Nat) : dead (committedRec r) now = dead r now := rfl

/-- same files and options: hinted reads go to the same bytes -/
theorem Rebuilt.of_files {s s' : State} (kv : s'.kv = normKV s.kv) (files : s'.files = s.files) (opt : s'.opt = s.opt)
    (ids : ∀ id, id ∈ s'.committed ↔ id ∈ s.committed) : Rebuilt s s' := by
  refine ⟨kv, ids, ?_⟩
  intro b m p _ _
  unfold DB.fetch
  rw [opt, files]
  split <;> rfl

/-- key+value mode on both sides: reads never go to the files -/
theorem Rebuilt.of_mode0 {s s' : State} (kv : s'.kv = normKV s.kv) (m : s.opt.mode = 0) (m' : s'.opt.mode = 0)
    (ids : ∀ id, id ∈ s'.committed ↔ id ∈ s.committed) : Rebuilt s s' := by
  refine ⟨kv, ids, ?_⟩
  intro b mm p _ _
  unfold DB.fetch
  simp only [m, m', beq_self_eq_true, if_true]
  rfl

/-! ### reads under an entry-wise map of the index -/

variable {γ : Type}

def mapBucket (g : Idx → Idx) (m : Assoc Idx) : Assoc Idx := m.map fun p => (p.1, g p.2)
def mapKV (g : Idx → Idx) (kv : Assoc (Assoc Idx)) : Assoc (Assoc Idx) := kv.map fun p => (p.1, mapBucket g p.2)

/-- what a caller is shown of a result -/
def shown (π : Rec → γ) (o : Outcome (Option Rec)) : Outcome (Option γ) := o.map (Option.map π)
def shownL (π : Rec → γ) (o : Outcome (List (Option Rec))) : Outcome (List (Option γ)) := o.map (List.map (Option.map π))

/-- `s'` is `s` with every index entry replaced by its image under `g` -/
structure Remap (g : Idx → Idx) (π : Rec → γ) (s s' : State) : Prop where
  kv : s'.kv = mapKV g s.kv
  dead : ∀ i now, dead (g i).r now = dead i.r now
  ids : ∀ b m p, bucketIdx s b = some m → p ∈ m → s'.committed.contains (g p.2).r.txid = s.committed.contains p.2.r.txid
  fetch : ∀ b m p, bucketIdx s b = some m → p ∈ m → shown π (fetch s' (g p.2)) = shown π (fetch s p.2)

variable {g : Idx → Idx} {π : Rec → γ} {s s' : State}

theorem bucketOf_remap (h : Remap g π s s') (b : Bytes) : Reads.bucketOf s' b = mapBucket g (Reads.bucketOf s b) := by
  unfold Reads.bucketOf bucketIdx
  rw [h.kv, show aget? (mapKV g s.kv) b = _ from aget_map (mapBucket g) s.kv b]
  cases aget? s.kv b <;> rfl

theorem remap_bucket (h : Remap g π s s') (b : Bytes) : ∀ p ∈ Reads.bucketOf s b,
    s'.committed.contains (g p.2).r.txid = s.committed.contains p.2.r.txid ∧ shown π (fetch s' (g p.2)) = shown π (fetch s p.2) :=
  Reads.forall_bucketOf fun m hb p hp => ⟨h.ids b m p hb hp, h.fetch b m p hb hp⟩

theorem get_remap (h : Remap g π s s') (b k : Bytes) (now : Nat) : shown π (DB.get s' b k now) = shown π (DB.get s b k now) := by
  rw [Reads.get_eq, Reads.get_eq, bucketOf_remap h b, show aget? (mapBucket g _) k = _ from aget_map g _ k]
  cases hk : aget? (Reads.bucketOf s b) k with
  | none => rfl
  | some i =>
    obtain ⟨hc, hf⟩ := remap_bucket h b (k, i) (aget_mem _ k i hk)
    simp only [Option.map_some]
    rw [hc, h.dead]
    split
    · rfl
    · split
      · rfl
      · exact hf

theorem nonEmptyOrErr_map {α β} (f : α → β) (o : Outcome (List α)) :
    (nonEmptyOrErr o).map (List.map f) = nonEmptyOrErr (o.map (List.map f)) := by
  cases o with
  | ok l => cases l <;> rfl
  | err => rfl
  | panic => rfl

/-- the tail of a scan, on a selection of the bucket's entries -/
theorem scan_remap (h : Remap g π s s') (b : Bytes) (sel : List Idx) (hsub : ∀ i ∈ sel, ∃ p ∈ Reads.bucketOf s b, p.2 = i)
    (lim : Int) (now : Nat) :
    shownL π (nonEmptyOrErr (wrapper s' (sel.map g) lim now)) = shownL π (nonEmptyOrErr (wrapper s sel lim now)) := by
  unfold shownL
  rw [nonEmptyOrErr_map, nonEmptyOrErr_map]
  exact congrArg _ (Reads.wrapper_congr (Option.map π) s s' g lim now sel (fun i => h.dead i now) (fun i hi => by
    obtain ⟨q, hq, rfl⟩ := hsub i hi
    exact (remap_bucket h b q hq).2) [] [] rfl)

theorem mapBucket_vals (m : Assoc Idx) : (mapBucket g m).map (·.2) = (m.map (·.2)).map g := by
  simp [mapBucket, List.map_map, Function.comp]

theorem getAll_remap (h : Remap g π s s') (b : Bytes) (now : Nat) : shownL π (getAll s' b now) = shownL π (getAll s b now) := by
  rw [Reads.getAll_eq, Reads.getAll_eq, bucketOf_remap h b, mapBucket_vals]
  exact scan_remap h b _ (fun i hi => by simpa using hi) _ _

theorem rangeScan_remap (h : Remap g π s s') (b st en : Bytes) (now : Nat) :
    shownL π (rangeScan s' b st en now) = shownL π (rangeScan s b st en now) := by
  have hf : ∀ m : Assoc Idx, (mapBucket g m).filter (fun p => ble st p.1 && ble p.1 en) =
      mapBucket g (m.filter fun p => ble st p.1 && ble p.1 en) := fun m => by unfold mapBucket; rw [List.filter_map]; rfl
  rw [Reads.rangeScan_eq, Reads.rangeScan_eq, bucketOf_remap h b, hf, mapBucket_vals]
  split
  · rfl
  · exact scan_remap h b _ (fun i hi => by
      obtain ⟨p, hp, rfl⟩ := List.mem_map.mp hi; exact ⟨p, (List.mem_filter.mp hp).1, rfl⟩) _ _

theorem prefixWalk_remap (m : Assoc Idx) (pre : Bytes) (off lim : Int) (mt : Bytes → Bool) :
    prefixWalk (mapBucket g m) pre off lim mt = ((prefixWalk m pre off lim mt).1.map g, (prefixWalk m pre off lim mt).2) := by
  have h1 : (mapBucket g m).dropWhile (fun p => blt p.1 pre) = mapBucket g (m.dropWhile fun p => blt p.1 pre) := by
    unfold mapBucket; rw [List.dropWhile_map]; rfl
  have h2 : ∀ l : Assoc Idx, (mapBucket g l).takeWhile (fun p => hasPrefix p.1 pre) = mapBucket g (l.takeWhile fun p => hasPrefix p.1 pre) := by
    intro l; unfold mapBucket; rw [List.takeWhile_map]; rfl
  rw [Paging.prefixWalk_eq, Paging.prefixWalk_eq, h1, h2]
  unfold mapBucket
  rw [Paging.page_map g, List.length_map, List.map_map, List.map_map]
  rfl

theorem prefixWalk_subset (m : Assoc Idx) (pre : Bytes) (off lim : Int) (mt : Bytes → Bool) :
    ∀ i ∈ (prefixWalk m pre off lim mt).1, ∃ p ∈ m, p.2 = i := by
  intro i hi
  rw [Paging.prefixWalk_eq] at hi
  obtain ⟨p, hp, rfl⟩ := List.mem_map.mp hi
  exact ⟨p, (List.dropWhile_sublist _).subset ((List.takeWhile_sublist _).subset (Paging.page_subset _ _ _ _ p hp)), rfl⟩

theorem prefixScan_remap (h : Remap g π s s') (b pre : Bytes) (off lim : Int) (now : Nat) (mt : Bytes → Bool) :
    shownL π (prefixScan s' b pre off lim now mt) = shownL π (prefixScan s b pre off lim now mt) := by
  rw [Reads.prefixScan_eq, Reads.prefixScan_eq, bucketOf_remap h b, prefixWalk_remap]
  exact scan_remap h b _ (prefixWalk_subset _ pre off lim mt) _ _

/-! ### recovery is such a map -/

theorem contains_rebuilt {s s' : State} (h : Rebuilt s s') (id : Nat) : s'.committed.contains id = s.committed.contains id := by
  rw [Bool.eq_iff_iff, List.contains_iff_mem, List.contains_iff_mem]; exact h.ids id

theorem Rebuilt.remap {s s' : State} (h : Rebuilt s s') : Remap normIdx committedRec s s' :=
  ⟨h.kv, fun _ _ => rfl, fun _ _ _ _ _ => contains_rebuilt h _, h.fetch⟩

theorem get_rebuilt {s s' : State} (h : Rebuilt s s') (b k : Bytes) (now : Nat) : vis (DB.get s' b k now) = vis (DB.get s b k now) :=
  get_remap h.remap b k now

theorem wrapper_rebuilt {s s' : State} (recs : List Idx) (hf : ∀ i ∈ recs, vis (fetch s' (normIdx i)) = vis (fetch s i))
    (lim : Int) (now : Nat)
    (acc acc' : List (Option Rec)) (hacc : acc'.map (Option.map committedRec) = acc.map (Option.map committedRec)) :
    visL (wrapper s' (recs.map normIdx) lim now acc') = visL (wrapper s recs lim now acc) :=
  Reads.wrapper_congr (Option.map committedRec) s s' normIdx lim now recs (fun _ => rfl) hf acc acc' hacc

theorem getAll_rebuilt {s s' : State} (h : Rebuilt s s') (b : Bytes) (now : Nat) : visL (getAll s' b now) = visL (getAll s b now) :=
  getAll_remap h.remap b now

theorem rangeScan_rebuilt {s s' : State} (h : Rebuilt s s') (b st en : Bytes) (now : Nat) :
    visL (rangeScan s' b st en now) = visL (rangeScan s b st en now) :=
  rangeScan_remap h.remap b st en now

theorem prefixWalk_norm (m : Assoc Idx) (pre : Bytes) (off lim : Int) (mt : Bytes → Bool) :
    prefixWalk (normBucket m) pre off lim mt = ((prefixWalk m pre off lim mt).1.map normIdx, (prefixWalk m pre off lim mt).2) :=
  prefixWalk_remap m pre off lim mt

theorem prefixScan_rebuilt {s s' : State} (h : Rebuilt s s') (b pre : Bytes) (off lim : Int) (now : Nat) (mt : Bytes → Bool) :
    visL (prefixScan s' b pre off lim now mt) = visL (prefixScan s b pre off lim now mt) :=
  prefixScan_remap h.remap b pre off lim now mt

end NutsProofs.Reopen
