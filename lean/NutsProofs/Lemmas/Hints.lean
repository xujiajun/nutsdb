/-
  NutsProofs.Lemmas.Hints — every hint addresses its record: along every key/value history the data files are
  packed (file ids ascending, offsets inside a file ascending without overlap, the active file ends at the
  write offset), so a record is read back from the position it was written at (`hint_reads_back`); hence in
  either RAM index mode every index entry can be fetched (`fetches_of_packed`), and every state of every history
  presents the spec's map after the same puts and deletes (`reached_presents`: the hypothesis of
  `KVRefine.Presents.reads`). `reads_mode_independent` is the same fact between a state and its key+value twin.

  In order: in packed files the log ascends in position (`MergeKV.log_sorted`, in the namespace of `posLt`); reading
  a record back in a well-formed directory (`fileGet_of_mem`, `readAt_of_mem`); the packing invariant along commits;
  `Open` keeps it; every hint reads its record back; every state of a key/value history.
-/
import NutsProofs.Lemmas.KVRefine
import NutsProofs.Lemmas.ReopenObs
namespace NutsProofs.MergeKV
open Nuts Nuts.Model Nuts.Model.DB

/-- in packed files the log is strictly ascending in position -/
theorem log_sorted (fs : List File) (hf : (fs.map (·.fid)).Pairwise (· < ·))
    (ho : ∀ g ∈ fs, g.recs.Pairwise (fun a b => a.1 + a.2.size ≤ b.1)) :
    (allRecs fs).Pairwise (fun x y => posLt (posOf x) (posOf y)) := by
  unfold allRecs
  rw [List.pairwise_flatMap]
  constructor
  · intro f hf'
    rw [List.pairwise_map]
    refine (ho f hf').imp fun {a b} hab => Or.inr ⟨rfl, ?_⟩
    have := size_pos a.2
    show a.1 < b.1
    omega
  · rw [List.pairwise_map] at hf
    refine hf.imp fun {f g} hfg x hx y hy => ?_
    obtain ⟨a, _, rfl⟩ := List.mem_map.mp hx
    obtain ⟨b, _, rfl⟩ := List.mem_map.mp hy
    exact Or.inl hfg

end NutsProofs.MergeKV

namespace NutsProofs.Hints
open Nuts Nuts.Model Nuts.Model.DB NutsProofs.Reopen NutsProofs.Reads

/-- files as the library writes them: one file per id, one record per offset -/
def WellFormed (fs : List File) : Prop :=
  fs.Pairwise (fun a b => a.fid ≠ b.fid) ∧ ∀ f ∈ fs, f.recs.Pairwise (fun a b => a.1 ≠ b.1)


theorem find?_of_mem {α κ : Type} [BEq κ] [LawfulBEq κ] {key : α → κ} {l : List α} {x : α}
    (hpw : l.Pairwise fun a b => key a ≠ key b) (hx : x ∈ l) : l.find? (key · == key x) = some x := by
  induction l with
  | nil => cases hx
  | cons y rest ih =>
    rw [List.pairwise_cons] at hpw
    rw [List.find?_cons]
    rcases List.mem_cons.mp hx with rfl | hmem
    · rw [beq_self_eq_true]
    · rw [show (key y == key x) = false from beq_false_of_ne (hpw.1 x hmem)]
      exact ih hpw.2 hmem

theorem fileGet_of_mem {fs : List File} {f : File} (hpw : fs.Pairwise (fun a b => a.fid ≠ b.fid)) (hf : f ∈ fs) :
    fileGet? fs f.fid = some f :=
  find?_of_mem hpw hf

theorem fileGet_mem (fs : List File) (fid : Nat) (f : File) (h : fileGet? fs fid = some f) : f ∈ fs ∧ f.fid = fid := by
  unfold fileGet? at h
  exact ⟨List.mem_of_find?_eq_some h, by have := List.find?_some h; simpa using this⟩

/-- reading a record back at its offset, in a well-formed directory -/
theorem readAt_of_mem (fs : List File) (seg : Nat) (f : File) (pos : Nat) (r : Rec) (hwf : WellFormed fs)
    (hf : f ∈ fs) (hr : (pos, r) ∈ f.recs) : readAt fs seg f.fid pos = .ok (some r) := by
  unfold readAt
  rw [fileGet_of_mem hwf.1 hf]
  simp only [find?_of_mem (key := (·.1)) (hwf.2 f hf) hr]


/-! ### the packing invariant -/

theorem packed_wellFormed (s : State) (h : Packed s) : WellFormed s.files := by
  constructor
  · have := h.fids
    rw [List.pairwise_map] at this
    exact this.imp (fun hab => by omega)
  · intro f hf
    exact (h.offs f hf).imp (fun {a b} hab => by have := size_pos a.2; omega)

theorem Packed.sorted {s : State} (h : Packed s) :
    (allRecs s.files).Pairwise (fun x y => MergeKV.posLt (MergeKV.posOf x) (MergeKV.posOf y)) :=
  MergeKV.log_sorted s.files h.fids h.offs

theorem commit_packed (s : State) (t : List Rec) (hi : LogInv s) (h : Packed s) (ht : KVTx s.opt.seg t) :
    Packed (commit s t).1 := by
  obtain ⟨hne, tid, hr⟩ := ht
  obtain ⟨_, ⟨_, _, _, hE⟩, _⟩ := commit_kv_log s t tid hi.shape hne hr
  exact hE.packed h

/-! ### Open keeps the packing -/

theorem fileEnd_bound (f : File) (hp : f.recs.Pairwise (fun a b => a.1 + a.2.size ≤ b.1)) :
    ∀ x ∈ f.recs, x.1 + x.2.size ≤ fileEnd f := by
  intro x hx
  obtain ⟨q, hq, hxq⟩ := fileEnd_last hp hx
  rcases hxq with rfl | hle <;> omega

theorem fileGet_of_sorted (fs : List File) (f : File) (hf : f ∈ fs) (hp : (fs.map (·.fid)).Pairwise (· < ·)) :
    fileGet? fs f.fid = some f :=
  fileGet_of_mem ((List.pairwise_map.mp hp).imp Nat.ne_of_lt) hf

theorem reopen_packed (s : State) (hi : LogInv s) (h : Packed s) (opt : Opts) : Packed (openDB opt s.files).1 := by
  obtain ⟨_, hfs, ha, hw⟩ := LogCommit.reopen_frame s hi.shape opt
  refine ⟨by rw [hfs]; exact h.fids, by rw [hfs]; exact h.offs, ?_⟩
  intro g hg hgf x hx
  rw [hfs] at hg
  rw [hw, ← ha, ← hgf, fileGet_of_sorted s.files g hg h.fids]
  exact fileEnd_bound g (h.offs g hg) x hx

theorem packed_init (opt : Opts) : Packed (openDB opt []).1 := by
  rw [Replay.openDB_nil]
  exact ⟨by simp, by simp, by simp⟩

theorem packed_ops (ops : List Op) (s : State) (hi : LogInv s) (h : Packed s) (hok : OpsOk s ops) :
    Packed (ops.foldl stepOp s) :=
  logInv_induct (fun s t hi h ht => commit_packed s t hi h ht) (fun s o hi h => reopen_packed s hi h o) ops s hi h hok

/-! ### every hint reads its record back -/

theorem hint_reads_back (s : State) (hi : LogInv s) (h : Packed s) (b : Bytes) (m : Assoc Idx) (p : Bytes × Idx)
    (hb : bucketIdx s b = some m) (hp : p ∈ m) :
    ∃ r, readAt s.files s.opt.seg p.2.fid p.2.pos = .ok (some r) ∧ committedRec r = committedRec p.2.r := by
  -- the entry, normalised, is an entry of the index the log denotes
  have hbn : aget? (kvOfLog (allRecs s.files)) b = some (normBucket m) := by
    rw [← hi.idx]; unfold normKV; rw [aget_map normBucket]; unfold bucketIdx at hb; rw [hb]; rfl
  obtain ⟨x, hx, hxi⟩ := MergeKV.kvOfLog_entries (allRecs s.files) b (normBucket m) (p.1, normIdx p.2) hbn (List.mem_map.mpr ⟨p, hp, rfl⟩)
  obtain ⟨f, hf, hfid, hrec⟩ := (mem_allRecs_iff s.files x).mp hx
  have hfid' : p.2.fid = f.fid := (congrArg Idx.fid hxi).trans hfid.symm
  have hpos' : p.2.pos = x.2.2 := congrArg Idx.pos hxi
  rw [hfid', hpos']
  exact ⟨x.1, readAt_of_mem s.files s.opt.seg f x.2.2 x.1 (packed_wellFormed s h) hf hrec, (congrArg Idx.r hxi).symm⟩

/-- in either RAM index mode every entry can be fetched: from RAM, or through its hint -/
theorem fetches_of_packed (s : State) (hi : LogInv s) (h : Packed s) :
    KVRefine.AllIdx s.kv fun _ i => ∃ r, fetch s i = .ok (some r) ∧ committedRec r = committedRec i.r := by
  intro b m p hb hp
  by_cases hm : s.opt.mode = 0
  · exact ⟨p.2.r, fetch_mode0 s hm p.2, rfl⟩
  · obtain ⟨r, hr, hrc⟩ := hint_reads_back s hi h b m p hb hp
    exact ⟨r, by simp [fetch, hm, hr], hrc⟩

/-- the same state with the key+value index mode -/
def withMode0 (s : State) : State := { s with opt := { s.opt with mode := 0 } }

theorem rebuilt_normState (s : State) : Rebuilt s (KVRefine.normState s) :=
  Rebuilt.of_files rfl rfl rfl (fun _ => Iff.rfl)

/-- **A key-only database answers like a key+value database.** Every indexed entry fetches the same record: from
RAM in the normalised key+value twin, through the hint from the data file in the state itself. -/
theorem rebuilt_mode_twin (s : State) (hi : LogInv s) (h : Packed s) : Rebuilt s (KVRefine.normState (withMode0 s)) := by
  refine ⟨rfl, fun _ => Iff.rfl, ?_⟩
  intro b m p hb hp
  obtain ⟨r, hr, hrc⟩ := fetches_of_packed s hi h b m p hb hp
  rw [hr]
  exact congrArg (fun x => Outcome.ok (some x)) hrc.symm

/-- every key/value read of a state equals, up to the status byte, the read of its key+value twin -/
theorem reads_mode_independent (s : State) (hi : LogInv s) (h : Packed s) :
    (∀ b k now, vis (DB.get s b k now) = vis (DB.get (withMode0 s) b k now)) ∧
    (∀ b now, visL (getAll s b now) = visL (getAll (withMode0 s) b now)) ∧
    (∀ b st en now, visL (rangeScan s b st en now) = visL (rangeScan (withMode0 s) b st en now)) ∧
    (∀ b pre off lim now mt, visL (prefixScan s b pre off lim now mt) = visL (prefixScan (withMode0 s) b pre off lim now mt)) := by
  have h1 := rebuilt_mode_twin s hi h
  have h2 := rebuilt_normState (withMode0 s)
  exact ⟨fun b k now => by rw [← get_rebuilt h1, get_rebuilt h2],
    fun b now => by rw [← getAll_rebuilt h1, getAll_rebuilt h2],
    fun b st en now => by rw [← rangeScan_rebuilt h1, rangeScan_rebuilt h2],
    fun b pre off lim now mt => by rw [← prefixScan_rebuilt h1, prefixScan_rebuilt h2]⟩

theorem reached (opt0 : Opts) (ops : List Op) (hok : OpsOk (openDB opt0 []).1 ops) :
    LogInv (ops.foldl stepOp (openDB opt0 []).1) ∧ Packed (ops.foldl stepOp (openDB opt0 []).1) ∧
    (allRecs (ops.foldl stepOp (openDB opt0 []).1).files).map (·.1) = logOf ops := by
  refine ⟨logInv_reached opt0 ops hok, packed_ops ops _ (logInv_init opt0) (packed_init opt0) hok, ?_⟩
  rw [log_of_ops ops _ (logInv_init opt0) hok, Replay.openDB_nil]; rfl

theorem reached_presents (opt0 : Opts) (ops : List Op) (hok : OpsOk (openDB opt0 []).1 ops) (hrec : KVRefine.OpsRecOk ops) :
    KVRefine.Presents (ops.foldl stepOp (openDB opt0 []).1) (KVRefine.specOfOps ops) := by
  obtain ⟨hinv, hpk, hlog⟩ := reached opt0 ops hok
  have := KVRefine.presents_of_logInv _ hinv
    (fun x hx => KVRefine.logOf_recOk ops hrec x.1 (by rw [← hlog]; exact List.mem_map.mpr ⟨x, hx, rfl⟩))
    (fetches_of_packed _ hinv hpk)
  rw [hlog, show KVRefine.specOfLog (logOf ops) = KVRefine.specOfOps ops from KVRefine.specOfLog_logOf ops []] at this
  exact this

end NutsProofs.Hints
