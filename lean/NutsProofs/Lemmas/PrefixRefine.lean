/-
  NutsProofs.Lemmas.PrefixRefine — in a list sorted by `bytes.Compare`, the keys with a given prefix form one
  block that starts at the first key not below the prefix: the walk of `PrefixScan` (skip the keys below the
  prefix, stop at the first key without it) selects exactly the keys with the prefix.
-/
import NutsProofs.Lemmas.Assoc
import NutsProofs.Lemmas.Paging
namespace NutsProofs.PrefixRefine
open Nuts Nuts.Model Nuts.Model.DB

theorem hasPrefix_refl (p : Bytes) : hasPrefix p p = true := by
  induction p with
  | nil => rfl
  | cons a as ih => simp [hasPrefix, ih]

theorem not_prefix_of_lt : (k pre : Bytes) → bcmp k pre = .lt → hasPrefix k pre = false
  | [], [], h => by simp [bcmp] at h
  | _ :: _, [], h => by simp [bcmp] at h
  | [], _ :: _, _ => rfl
  | a :: as, b :: bs, h => by
    rw [hasPrefix]
    rcases (bcmp_cons_lt_iff a b as bs).mp h with hab | ⟨_, h'⟩
    · rw [show (a == b) = false from beq_eq_false_iff_ne.mpr (UInt8.ne_of_lt hab)]; rfl
    · rw [not_prefix_of_lt as bs h', Bool.and_false]

theorem hasPrefix_nil (k : Bytes) : hasPrefix k [] = true := by cases k <;> rfl

/-- the keys with a prefix are an interval of the order -/
theorem prefix_convex : (pre k1 k2 k3 : Bytes) → hasPrefix k1 pre = true → hasPrefix k3 pre = true →
    bcmp k1 k2 = .lt → bcmp k2 k3 = .lt → hasPrefix k2 pre = true
  | [], _, k2, _, _, _, _, _ => hasPrefix_nil k2
  | b :: bs, [], _, _, h1, _, _, _ => by simp [hasPrefix] at h1
  | b :: bs, _ :: _, _, [], _, h3, _, _ => by simp [hasPrefix] at h3
  | b :: bs, a1 :: k1', [], a3 :: k3', _, _, h12, _ => by simp [bcmp] at h12
  | b :: bs, a1 :: k1', c :: k2', a3 :: k3', h1, h3, h12, h23 => by
    rw [hasPrefix, Bool.and_eq_true, beq_iff_eq] at h1 h3 ⊢
    obtain ⟨rfl, hp1⟩ := h1
    obtain ⟨rfl, hp3⟩ := h3
    -- the first byte of `k2` lies between two equal bytes
    rcases (bcmp_cons_lt_iff _ _ _ _).mp h12 with hlt | ⟨rfl, h12'⟩
    · rcases (bcmp_cons_lt_iff _ _ _ _).mp h23 with hgt | ⟨rfl, _⟩
      · exact absurd (UInt8.lt_trans hlt hgt) (UInt8.lt_irrefl _)
      · exact absurd hlt (UInt8.lt_irrefl _)
    · rcases (bcmp_cons_lt_iff _ _ _ _).mp h23 with hgt | ⟨_, h23'⟩
      · exact absurd hgt (UInt8.lt_irrefl _)
      · exact ⟨rfl, prefix_convex bs k1' k2' k3' hp1 hp3 h12' h23'⟩

variable {α : Type}

theorem hasPrefix_of_lt {pre a b : Bytes} (hab : bcmp a b = .lt) (hb : hasPrefix b pre = true)
    (ha : bcmp a pre ≠ .lt) : hasPrefix a pre = true := by
  cases hc : bcmp a pre with
  | lt => exact absurd hc ha
  | eq => rw [(bcmp_eq_iff _ _).mp hc]; exact hasPrefix_refl pre
  | gt => exact prefix_convex pre pre a b (hasPrefix_refl pre) hb ((bcmp_gt_iff_lt _ _).mp hc) hab

theorem walk_eq_filter (pre : Bytes) (l : List (Bytes × α)) (hs : Sorted l) :
    (l.dropWhile fun p => blt p.1 pre).takeWhile (fun p => hasPrefix p.1 pre) = l.filter (fun p => hasPrefix p.1 pre) := by
  rw [dropWhile_takeWhile_eq_filter _ _ l (hs.imp fun {a b} hab =>
    ⟨fun h => by simpa [blt] using bcmp_lt_trans hab (by simpa [blt] using h),
     fun h => (Decidable.em (bcmp a.1 pre = .lt)).imp (by simp [blt]) (hasPrefix_of_lt hab h)⟩)]
  refine List.filter_congr fun p _ => ?_
  cases hp : hasPrefix p.1 pre with
  | false => simp
  | true =>
    have : bcmp p.1 pre ≠ .lt := fun h => by simp [not_prefix_of_lt _ _ h] at hp
    simp [blt, this]

theorem prefixGo_all (lim : Int) (hl : ¬ lim > 0) (mt : Bytes → Bool) (l : List (Bytes × Idx)) (c : Int) (hc : ¬ c < 0) (acc : List Idx) :
    prefixWalk.go 0 lim mt l c acc = (acc ++ (l.filter fun p => mt p.1).map (·.2), c) := by
  rw [Paging.go_eq 0 lim mt l c acc (fun h => absurd h hl), if_neg hl,
    Int.toNat_of_nonpos (Int.sub_nonpos_of_le (Int.not_lt.mp hc)), List.drop_zero,
    Int.max_eq_left (Int.le_trans (Int.min_le_left ..) (Int.not_lt.mp hc))]

theorem prefixWalk_sorted (m : Assoc Idx) (hs : Sorted m) (pre : Bytes) (off lim : Int) (mt : Bytes → Bool) :
    (prefixWalk m pre off lim mt).1 = (Paging.page off lim mt (m.filter fun p => hasPrefix p.1 pre)).map (·.2) := by
  rw [Paging.prefixWalk_eq, walk_eq_filter pre m hs]

end NutsProofs.PrefixRefine
