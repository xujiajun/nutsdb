/-
  NutsProofs.Lemmas.Paging — what the offset / limit walk of `PrefixScan` / `PrefixSearchScan` selects from the
  block of keys with the prefix: skip `offset` records (before the match test), keep the matching ones, stop
  after `limit` of them when `limit > 0` (`page`). `go_eq` is the loop in closed form, `prefixWalk_eq` the walk.
-/
import Nuts.Model.DB
namespace NutsProofs.Paging
open Nuts Nuts.Model Nuts.Model.DB

def page {β} (off lim : Int) (mt : Bytes → Bool) (l : List (Bytes × β)) : List (Bytes × β) :=
  if lim > 0 then ((l.drop off.toNat).filter fun p => mt p.1).take lim.toNat else (l.drop off.toNat).filter fun p => mt p.1

theorem page_all {β} (mt : Bytes → Bool) (l : List (Bytes × β)) : page 0 (-1) mt l = l.filter fun p => mt p.1 := rfl

theorem page_map {β γ} (f : β → γ) (off lim : Int) (mt : Bytes → Bool) (l : List (Bytes × β)) :
    page off lim mt (l.map fun p => (p.1, f p.2)) = (page off lim mt l).map fun p => (p.1, f p.2) := by
  have hf : ∀ l : List (Bytes × β), (l.map fun p => (p.1, f p.2)).filter (fun x => mt x.1) =
      (l.filter fun p => mt p.1).map fun p => (p.1, f p.2) := fun l => by rw [List.filter_map]; rfl
  unfold page
  split
  · rw [← List.map_drop, hf, ← List.map_take]
  · rw [← List.map_drop, hf]

theorem page_subset {β} (off lim : Int) (mt : Bytes → Bool) (l : List (Bytes × β)) : ∀ p ∈ page off lim mt l, p ∈ l := by
  intro p hp
  unfold page at hp
  have : p ∈ (l.drop off.toNat).filter fun p => mt p.1 := by
    split at hp
    · exact List.mem_of_mem_take hp
    · exact hp
  exact List.mem_of_mem_drop (List.mem_filter.mp this).1

theorem page_length_le {β} (off lim : Int) (hl : lim > 0) (mt : Bytes → Bool) (l : List (Bytes × β)) :
    (page off lim mt l).length ≤ lim.toNat := by
  unfold page; rw [if_pos hl]; exact List.length_take_le _ _

/-- the counter stops at `offset`, or earlier where the block ends -/
theorem go_eq (off lim : Int) (mt : Bytes → Bool) (l : List (Bytes × Idx)) (c : Int) (acc : List Idx)
    (hacc : lim > 0 → (acc.length : Int) < lim) :
    prefixWalk.go off lim mt l c acc =
      (acc ++ ((if lim > 0 then ((l.drop (off - c).toNat).filter fun p => mt p.1).take (lim.toNat - acc.length)
          else (l.drop (off - c).toNat).filter fun p => mt p.1).map (·.2)),
        max c (min off (c + l.length))) := by
  induction l generalizing c acc with
  | nil =>
    rw [prefixWalk.go, List.drop_nil, List.filter_nil, List.take_nil, ite_self, List.map_nil, List.append_nil,
      Int.max_eq_left (Int.le_trans (Int.min_le_right ..) (by simp))]
  | cons p rest ih =>
    rw [prefixWalk.go]
    by_cases hlt : c < off
    · -- skipping
      have hn : c + (((p :: rest).length : Nat) : Int) = c + 1 + rest.length := by
        rw [List.length_cons, Int.natCast_add, Int.natCast_one, Int.add_comm (rest.length : Int) 1, Int.add_assoc]
      rw [if_pos hlt, ih (c + 1) acc hacc, hn, show off - c = off - (c + 1) + 1 by rw [← Int.sub_sub, Int.sub_add_cancel],
        Int.toNat_add (Int.sub_nonneg_of_le hlt) (by decide), show (1 : Int).toNat = 1 from rfl, List.drop_succ_cons,
        Int.max_eq_right (Int.le_min.mpr ⟨hlt, Int.le_add_of_nonneg_right (Int.natCast_nonneg _)⟩),
        Int.max_eq_right (Int.le_min.mpr ⟨Int.le_of_lt hlt, Int.le_trans (Int.le_add_of_nonneg_right (by decide))
          (Int.le_add_of_nonneg_right (Int.natCast_nonneg _))⟩)]
    · -- taking: `coff` has reached `offset` and stays
      have h0 : (off - c).toNat = 0 := Int.toNat_of_nonpos (Int.sub_nonpos_of_le (Int.not_lt.mp hlt))
      have hmax : ∀ n : Nat, max c (min off (c + n)) = c := fun n =>
        Int.max_eq_left (Int.le_trans (Int.min_le_left ..) (Int.not_lt.mp hlt))
      have e : (acc ++ [p.2]).length = acc.length + 1 := by rw [List.length_append]; rfl
      have ih := fun acc hacc => (ih c acc hacc).trans (by rw [h0, List.drop_zero, hmax])
      rw [if_neg hlt, h0, List.drop_zero, hmax]
      cases hm : mt p.1 with
      | false => rw [List.filter_cons_of_neg (p := fun p => mt p.1) (a := p) (by simp [hm])]; exact ih acc hacc
      | true =>
        rw [List.filter_cons_of_pos (p := fun p => mt p.1) (a := p) hm]
        simp only [Bool.not_true, Bool.false_eq_true, if_false]
        by_cases hl : lim > 0
        · -- the limit as a natural number `N`; the stop test compares `acc.length + 1` with it
          have hN : ((lim.toNat : Nat) : Int) = lim := Int.toNat_of_nonneg (Int.le_of_lt hl)
          generalize lim.toNat = N at hN ih ⊢
          have hlt : acc.length < N := Int.ofNat_lt.mp (hN ▸ hacc hl)
          have htest : (((acc ++ [p.2]).length : Nat) : Int) = lim ↔ acc.length + 1 = N := by
            rw [e, ← hN]; exact Int.ofNat_inj
          by_cases hfull : acc.length + 1 = N
          · rw [if_pos ⟨hl, htest.mpr hfull⟩, if_pos hl, show N - acc.length = 1 by rw [← hfull]; exact Nat.add_sub_cancel_left ..]
            rfl
          · rw [if_neg (fun h => hfull (htest.mp h.2)),
              ih _ (fun _ => by rw [e, ← hN]; exact Int.ofNat_lt.mpr (Nat.lt_of_le_of_ne hlt hfull)),
              if_pos hl, if_pos hl, e, show N - acc.length = (N - (acc.length + 1)) + 1 by
                rw [Nat.sub_add_eq, Nat.sub_add_cancel (Nat.sub_pos_of_lt hlt)],
              List.take_succ_cons, List.map_cons, List.append_assoc]
            rfl
        · rw [if_neg (fun h => hl h.1), ih _ (fun h => absurd h hl), if_neg hl, if_neg hl, List.map_cons, List.append_assoc]
          rfl
theorem go_start (off lim : Int) (mt : Bytes → Bool) (l : List (Bytes × Idx)) :
    prefixWalk.go off lim mt l 0 [] = ((page off lim mt l).map (·.2), max 0 (min off l.length)) := by
  rw [go_eq off lim mt l 0 [] fun h => h, Int.sub_zero, Int.zero_add, List.nil_append, List.length_nil, Nat.sub_zero]
  rfl

/-- the records the walk returns from a block: drop `offset`, keep the matching ones, take `limit` -/
theorem go_page (off lim : Int) (hoff : 0 ≤ off) (mt : Bytes → Bool) (l : List (Bytes × Idx)) :
    (prefixWalk.go off lim mt l 0 []).1 =
      (if lim > 0 then ((l.drop off.toNat).filter fun p => mt p.1).take lim.toNat else (l.drop off.toNat).filter fun p => mt p.1).map (·.2) := by
  rw [go_start]; rfl

theorem prefixWalk_eq (m : List (Bytes × Idx)) (pre : Bytes) (off lim : Int) (mt : Bytes → Bool) :
    prefixWalk m pre off lim mt =
      ((page off lim mt ((m.dropWhile fun p => blt p.1 pre).takeWhile fun p => hasPrefix p.1 pre)).map (·.2),
        max 0 (min off ((m.dropWhile fun p => blt p.1 pre).takeWhile fun p => hasPrefix p.1 pre).length)) :=
  go_start off lim mt _

end NutsProofs.Paging
