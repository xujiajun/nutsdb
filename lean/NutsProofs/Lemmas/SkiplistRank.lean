/-
  NutsProofs.Lemmas.SkiplistRank — the queries of the skiplist that use spans or search loops: `FindRank`,
  `GetByRankRange` with and without removal, `GetByScoreRange` in both directions, for every level layout.
  Every descent is `Inv.walk_eq` level by level: from the header it passes `lastAt · i c` and ends just below the cut.
-/
import NutsProofs.Lemmas.SkiplistRefine
import NutsProofs.Lemmas.Kernels
namespace NutsProofs.SkipL
open Nuts Nuts.Model Nuts.Model.Skiplist NutsProofs.ZOrd
open Nuts.Model.ZSetA (Node nlt)

/-! ### FindRank -/

/-- the search condition of `FindRank`: the forward node is not after `n` -/
def leNode (n : Node) (f : Node) : Bool := decide (f.score < n.score) || (decide (f.score = n.score) && ble f.key n.key)

theorem leNode_iff (n f : Node) : leNode n f = true ↔ Lt f n ∨ (f.score = n.score ∧ f.key = n.key) := by
  unfold leNode Lt ble
  rw [← bcmp_eq_iff f.key n.key]
  cases bcmp f.key n.key <;> simp

/-- the loop returns at the first level whose walk ends on the tower of `n`, at the latest at level 0 -/
theorem findRankLoop_spec {s : SL} (h : OInv s) {j : Nat} {n : Node} (hj : (nodes s)[j]? = some n) :
    ∀ i, i < s.level →
      findRankLoop s.all n n.key (i + 1) (lastAt s.all (i + 1) (j + 2)) (lastAt s.all (i + 1) (j + 2) : Int) =
        ((j + 1 : Nat) : Int) := by
  have hjl : j < (nodes s).length := (List.getElem?_eq_some_iff.mp hj).1
  have hxl : j + 2 ≤ s.all.length := by rw [length_all h.inv]; exact Nat.succ_le_succ hjl
  -- the members not after `n` are `n` and the `j` members before it
  have hst : Steers s.all (fun _ f => decide (f.score < n.score) || (decide (f.score = n.score) && ble f.key n.key)) (j + 2) :=
    steers_of_index (P := leNode n) h.inv fun j' y hj' => by
      rw [leNode_iff, sorted_lt_iff h.sorted hj hj']
      refine ⟨fun hc => ?_, fun hc => ?_⟩
      · rcases hc with hc | hc
        · exact Nat.lt_succ_of_lt hc
        · exact key_inj h.keys hj hj' hc.2 ▸ Nat.lt_succ_self j
      · by_cases he : j' = j
        · subst he
          rw [hj] at hj'
          cases hj'
          exact Or.inr ⟨rfl, rfl⟩
        · exact Or.inl (Nat.lt_of_le_of_ne (Nat.le_of_lt_succ hc) he)
  have hc1 : 1 ≤ j + 2 := Nat.le_add_left 1 (j + 1)
  intro i
  induction i with
  | zero =>
    intro hil
    rw [findRankLoop, h.inv.walk_eq hst hc1 hxl hil, h.inv.lastAt_zero hxl]
    simp only
    rw [if_pos ⟨Nat.succ_ne_zero j, by rw [show j + 2 - 1 = j + 1 from rfl, nodeOf_of_get h.inv hj]⟩]
    rfl
  | succ i ih =>
    intro hil
    rw [findRankLoop, h.inv.walk_eq hst hc1 hxl hil]
    simp only
    by_cases hc : lastAt s.all (i + 1) (j + 2) ≠ 0 ∧ (nodeOf s.all (lastAt s.all (i + 1) (j + 2))).key = n.key
    · -- a tower below the cut that carries the key is the tower of `n`
      obtain ⟨u, hu⟩ : ∃ u, lastAt s.all (i + 1) (j + 2) = u + 1 := ⟨_, (Nat.succ_pred_eq_of_ne_zero hc.1).symm⟩
      have a := lastAt_lt s.all (i + 1) hc1
      rw [if_pos hc]
      rw [hu] at hc a ⊢
      have hul : u < (nodes s).length := Nat.lt_of_le_of_lt (Nat.le_of_lt_succ (Nat.lt_of_succ_lt_succ a)) hjl
      rw [nodeOf_getElem h.inv hul] at hc
      rw [key_inj h.keys hj (List.getElem?_eq_getElem hul) hc.2]
    · rw [if_neg hc]
      exact ih (Nat.lt_of_succ_lt hil)

theorem findRank_refines {s : SL} (h : OInv s) (k : Bytes) :
    findRank s k = ((ZSetA.rankOf (nodes s) k : Nat) : Int) := by
  unfold findRank ZSetA.rankOf
  rw [find_eq]
  cases hf : ZSetA.find? (nodes s) k with
  | none => rw [← ZSetA.rankOf, rankOf_of_find_none hf]; rfl
  | some n =>
    obtain ⟨rfl, j, hj⟩ := find_some_idx hf
    obtain ⟨l, hl⟩ := Nat.exists_eq_add_one.mpr h.inv.lvl.1
    have := findRankLoop_spec h hj l (hl ▸ Nat.lt_succ_self l)
    rw [← hl, h.inv.lastAt_high (Nat.le_refl _)] at this
    simp only [findIdx_key h.keys hj]
    exact this

theorem findRevRank_refines {s : SL} (h : OInv s) (k : Bytes) :
    findRevRank s k =
      if (nodes s).isEmpty || ZSetA.rankOf (nodes s) k == 0 then 0
      else ((nodes s).length : Int) - (ZSetA.rankOf (nodes s) k : Nat) + 1 := by
  unfold findRevRank
  rw [isEmpty_nodes h.inv, find_eq, findRank_refines h k, length_nodes h.inv]
  by_cases he : ((nodes s).length : Int) = 0
  · rw [if_pos he, decide_eq_true he, Bool.true_or, if_pos rfl]
  · rw [if_neg he, decide_eq_false he, Bool.false_or]
    cases hf : ZSetA.find? (nodes s) k with
    | none => rw [rankOf_of_find_none hf]; rfl
    | some n => rw [if_neg (by rw [beq_iff_eq]; exact rankOf_of_find_some hf)]

/-! ### GetByRankRange -/

theorem sanitize_pos (a b : Int) (len : Nat) (ha : inRange64 a) (hb : inRange64 b) (hn : (len : Int) < 4611686018427387904) :
    1 ≤ (ZSetA.sanitize len a b).1 ∧ 1 ≤ (ZSetA.sanitize len a b).2 := by
  obtain ⟨x, y, e, hx, hy⟩ := Kernels.sanitize_vals_pos a b len len
  unfold ZSetA.sanitize
  rw [e]
  exact ⟨hx, hy⟩

/-- the span-guided descent, with `update[]` (`remove`) or with its early `break`: it ends just below the cut of
`traversed + span < start` -/
theorem rankDescend_eq {s : SL} (hinv : Inv s) {lo : Int} {c : Nat} (hc1 : 1 ≤ c) (hcl : c ≤ s.all.length)
    (hst : Steers s.all (fun t2 _ => decide (t2 < lo)) c) (rm : Bool) :
    ∀ i, i ≤ s.level → ∀ upd,
      rankDescend s.all lo rm i (lastAt s.all i c) (lastAt s.all i c : Int) upd =
        (c - 1, ((c - 1 : Nat) : Int), if rm then (List.range i).map (lastAt s.all · c) ++ upd else upd) := by
  intro i
  induction i with
  | zero => intro _ upd; rw [rankDescend, hinv.lastAt_zero hcl]; cases rm <;> rfl
  | succ i ih =>
    intro hil upd
    rw [rankDescend, hinv.walk_eq hst hc1 hcl hil]
    cases rm with
    | true =>
      simp only [if_true]
      rw [ih (Nat.le_of_lt hil), List.range_succ, List.map_append, List.append_assoc]
      rfl
    | false =>
      simp only [Bool.false_eq_true, if_false]
      by_cases hb : (lastAt s.all i c : Int) + 1 = lo
      · -- the `break`: the tower reached has rank `start - 1`, so the next position is not below the cut
        have hn : ¬ lastAt s.all i c + 1 < c := fun hlt => by
          have := (hst _ (Nat.succ_le_succ (Nat.zero_le _)) (Nat.lt_of_lt_of_le hlt hcl)).mpr hlt
          rw [decide_eq_true_eq, Int.natCast_add_one, hb] at this
          exact Int.lt_irrefl _ this
        rw [if_pos hb, Nat.le_antisymm (Nat.le_sub_one_of_lt (lastAt_lt _ _ hc1)) (Nat.sub_le_of_le_add (Nat.le_of_not_lt hn))]
      · rw [if_neg hb, ih (Nat.le_of_lt hil)]
        rfl

theorem take_succ_drop {α} (l : List α) (k m : Nat) (h : k < l.length) :
    (l.drop k).take (m + 1) = l[k] :: (l.drop (k + 1)).take m := by
  rw [List.drop_eq_getElem_cons h, List.take_succ_cons]

theorem take_drop_done {α} (ns : List α) (c' k : Nat) (h : ns.length ≤ c' ∨ k = 0) :
    (ns.drop c').take k = [] ∧ ns.take c' ++ ns.drop (c' + k) = ns := by
  rcases h with h | rfl
  · rw [List.drop_of_length_le h, List.take_of_length_le h, List.drop_of_length_le (Nat.le_trans h (Nat.le_add_right _ _)),
      List.take_nil, List.append_nil]
    exact ⟨rfl, rfl⟩
  · exact ⟨rfl, List.take_append_drop _ _⟩

/-- `(end - traversed + 1).toNat` is the number of rounds `for … traversed <= end { …; traversed++ }` has left -/
theorem rounds_succ {hi t : Int} (h : t ≤ hi) : (hi - t + 1).toNat = (hi - (t + 1) + 1).toNat + 1 := by
  rw [show hi - (t + 1) + 1 = hi - t by omega, Int.toNat_add (Int.sub_nonneg_of_le h) (by decide)]; rfl

theorem rounds_done {n c' : Nat} {hi t : Int} (hc : ¬ (c' < n ∧ t ≤ hi)) : n ≤ c' ∨ (hi - t + 1).toNat = 0 :=
  (Nat.lt_or_ge c' n).elim (fun hcl => Or.inr (Int.toNat_eq_zero.mpr (by have := fun h' => hc ⟨hcl, h'⟩; omega))) Or.inl

theorem collect_ro {s : SL} (hinv : Inv s) (upd : List Nat) (hi : Int) :
    ∀ fuel c' (t : Int) acc, (nodes s).length ≤ fuel + c' →
      collect false upd hi fuel s (c' + 1) t acc = (s, acc ++ ((nodes s).drop c').take (hi - t + 1).toNat) := by
  intro fuel
  induction fuel with
  | zero =>
    intro c' t acc hf
    rw [collect, (take_drop_done (nodes s) c' _ (Or.inl (Nat.zero_add c' ▸ hf))).1, List.append_nil]
  | succ fuel ih =>
    intro c' t acc hf
    rw [collect]
    by_cases hc : c' < (nodes s).length ∧ t ≤ hi
    · rw [if_pos ⟨(succ_lt_length_all hinv).mpr hc.1, hc.2⟩, if_neg Bool.false_ne_true, ih _ _ _ (Nat.add_right_comm fuel 1 c' ▸ hf),
        rounds_succ hc.2, take_succ_drop _ _ _ hc.1, nodeOf_getElem hinv hc.1, List.append_assoc]
      rfl
    · rw [if_neg fun h' => hc ⟨(succ_lt_length_all hinv).mp h'.1, h'.2⟩,
        (take_drop_done (nodes s) c' _ (rounds_done hc)).1, List.append_nil]

/-- `update[]` computed once stays right while the towers at the cut are removed one after the other -/
theorem collect_rm (upd : List Nat) (hi : Int) (c : Nat) (hc1 : 1 ≤ c) :
    ∀ fuel (s : SL) (t : Int) acc, OInv s → s.all.length ≤ fuel + c →
      (∀ i, i < s.level → IsUpd s.all c i (upd.getD i 0) ((upd.getD i 0 : Nat) : Int)) →
      OInv (collect true upd hi fuel s c t acc).1 ∧
      (collect true upd hi fuel s c t acc).2 = acc ++ ((nodes s).drop (c - 1)).take (hi - t + 1).toNat ∧
      nodes (collect true upd hi fuel s c t acc).1 = (nodes s).take (c - 1) ++ (nodes s).drop (c - 1 + (hi - t + 1).toNat) := by
  obtain ⟨c', rfl⟩ := Nat.exists_eq_add_one.mpr hc1
  simp only [Nat.add_sub_cancel]
  have hdone : ∀ (s : SL) (t : Int) acc, OInv s → ((nodes s).length ≤ c' ∨ (hi - t + 1).toNat = 0) →
      OInv s ∧ acc = acc ++ ((nodes s).drop c').take (hi - t + 1).toNat ∧
      nodes s = (nodes s).take c' ++ (nodes s).drop (c' + (hi - t + 1).toNat) := fun s t acc h hd => by
    obtain ⟨e1, e2⟩ := take_drop_done (nodes s) c' _ hd
    rw [e1, e2, List.append_nil]
    exact ⟨h, rfl, rfl⟩
  intro fuel
  induction fuel with
  | zero =>
    intro s t acc h hf _
    rw [collect]
    rw [length_all h.inv, Nat.zero_add] at hf
    exact hdone s t acc h (Or.inl (Nat.le_of_succ_le_succ hf))
  | succ fuel ih =>
    intro s t acc h hf hU
    rw [collect]
    by_cases hc : c' < (nodes s).length ∧ t ≤ hi
    · have hxl : c' + 1 < s.all.length := (succ_lt_length_all h.inv).mpr hc.1
      rw [if_pos ⟨hxl, hc.2⟩, if_pos rfl]
      obtain ⟨ho', hn', hlv'⟩ := oinv_deleteNode h (c' + 1) hc1 hxl upd hU
      have hlen' : (deleteNode s (c' + 1) upd).all.length = s.all.length - 1 := by
        rw [deleteNode_eq, cutOut, List.length_eraseIdx, mapSpans_length, if_pos hxl]
      -- below the cut nothing moved
      have hU' : ∀ i, i < (deleteNode s (c' + 1) upd).level →
          IsUpd (deleteNode s (c' + 1) upd).all (c' + 1) i (upd.getD i 0) ((upd.getD i 0 : Nat) : Int) := by
        intro i hi'
        obtain ⟨a1, a2, a3, a4⟩ := hU i (Nat.lt_of_lt_of_le hi' hlv')
        exact ⟨a1, a2, by rw [deleteNode_height_below s _ upd _ a2]; exact a3,
          fun q hq1 hq2 => by rw [deleteNode_height_below s _ upd _ hq2]; exact a4 q hq1 hq2⟩
      obtain ⟨r1, r2, r3⟩ := ih (deleteNode s (c' + 1) upd) (t + 1) (acc ++ [nodeOf s.all (c' + 1)]) ho'
        (by rw [hlen']; exact Nat.sub_le_of_le_add (Nat.add_right_comm fuel 1 (c' + 1) ▸ hf)) hU'
      rw [hn', Nat.add_sub_cancel] at r2 r3
      refine ⟨r1, ?_, ?_⟩
      · rw [r2, rounds_succ hc.2, take_succ_drop _ _ _ hc.1, nodeOf_getElem h.inv hc.1,
          drop_eraseIdx_ge _ _ _ (Nat.le_refl _), List.append_assoc]
        rfl
      · rw [r3, rounds_succ hc.2, take_eraseIdx_self, drop_eraseIdx_ge _ _ _ (Nat.le_add_right _ _)]
        rfl
    · rw [if_neg fun h' => hc ⟨(succ_lt_length_all h.inv).mp h'.1, h'.2⟩]
      exact hdone s t acc h (rounds_done hc)

/-- a range that starts behind the end selects nothing, so its start may be cut off at the length -/
theorem sel_min {α} (ns : List α) (m kc km : Nat) (hk : m ≤ ns.length → kc = km) :
    (ns.drop (min m ns.length)).take kc = (ns.drop m).take km ∧
    ns.take (min m ns.length) ++ ns.drop (min m ns.length + kc) = ns.take m ++ ns.drop (m + ((ns.drop m).take km).length) := by
  by_cases hm : m ≤ ns.length
  · rw [Nat.min_eq_left hm, hk hm, List.length_take, List.length_drop]
    refine ⟨rfl, ?_⟩
    by_cases h : km ≤ ns.length - m
    · rw [Nat.min_eq_left h]
    · rw [Nat.min_eq_right (by omega), List.drop_of_length_le (by omega), List.drop_of_length_le (by omega)]
  · have hm' : ns.length ≤ m := Nat.le_of_lt (Nat.lt_of_not_le hm)
    obtain ⟨e1, _⟩ := take_drop_done ns m km (Or.inl hm')
    obtain ⟨f1, f2⟩ := take_drop_done ns ns.length kc (Or.inl (Nat.le_refl _))
    rw [Nat.min_eq_right hm', f1, f2, e1, List.length_nil, Nat.add_zero, List.take_append_drop]
    exact ⟨rfl, rfl⟩

/-- **`GetByRankRange(start, end, remove)`**, one theorem for both values of `remove` -/
theorem getByRankRange_refines {s : SL} (h : OInv s) (a b : Int) (rm : Bool)
    (hpos : 1 ≤ (ZSetA.sanitize s.length.toNat a b).1 ∧ 1 ≤ (ZSetA.sanitize s.length.toNat a b).2) :
    OInv (getByRankRange s a b rm).1 ∧ (rm = false → (getByRankRange s a b rm).1 = s) ∧
    nodes (getByRankRange s a b rm).1 = (ZSetA.getByRankRange (nodes s) a b rm).2 ∧
    (getByRankRange s a b rm).2 = (ZSetA.getByRankRange (nodes s) a b rm).1 := by
  have hlen := length_all h.inv
  unfold getByRankRange ZSetA.getByRankRange
  rw [length_toNat h.inv] at hpos ⊢
  generalize ZSetA.sanitize (nodes s).length a b = ab at hpos ⊢
  obtain ⟨a', b'⟩ := ab
  simp only at hpos ⊢
  generalize hlo : (if decide (a' > b') = true then (b', a') else (a', b')) = lohi
  obtain ⟨lo, hi⟩ := lohi
  -- `lo` is the rank of the member with index `m`; the descent stops below it, or on the last tower
  obtain ⟨m, rfl⟩ : ∃ m : Nat, lo = (m : Int) + 1 := by
    have : 1 ≤ lo := by split at hlo <;> cases hlo <;> omega
    exact ⟨(lo - 1).toNat, by rw [Int.toNat_of_nonneg (Int.sub_nonneg_of_le this), Int.sub_add_cancel]⟩
  have hst : Steers s.all (fun t2 _ => decide (t2 < (m : Int) + 1)) (min m (nodes s).length + 1) := by
    intro q _ hql
    rw [hlen] at hql
    rw [decide_eq_true_eq, ← Int.natCast_add_one, Int.ofNat_lt, Nat.lt_succ_iff, Nat.lt_succ_iff, Nat.le_min]
    exact ⟨fun hq => ⟨hq, Nat.le_of_lt_succ hql⟩, And.left⟩
  have hrd := rankDescend_eq h.inv (Nat.le_add_left 1 _) (hlen ▸ Nat.succ_le_succ (Nat.min_le_right _ _)) hst rm s.level
    (Nat.le_refl _) []
  rw [h.inv.lastAt_high (Nat.le_refl _)] at hrd
  simp only
  rw [show ((0 : Nat) : Int) = 0 from rfl] at hrd
  rw [hrd]
  simp only [Nat.add_sub_cancel, Int.add_sub_cancel, Int.toNat_natCast]
  obtain ⟨hsel, hrest⟩ := sel_min (nodes s) m (hi - (((min m (nodes s).length : Nat) : Int) + 1) + 1).toNat
    (hi - ((m : Int) + 1) + 1).toNat (fun hm => by rw [Nat.min_eq_left hm])
  cases rm with
  | false =>
    rw [collect_ro h.inv _ hi _ _ _ [] (by rw [hlen]; exact Nat.le_trans (Nat.le_add_right _ 1) (Nat.le_add_right _ _))]
    simp only [List.nil_append, Bool.false_eq_true, if_false]
    exact ⟨h, fun _ => trivial, trivial, by rw [hsel]⟩
  | true =>
    simp only [if_true, List.append_nil]
    obtain ⟨r1, r2, r3⟩ := collect_rm ((List.range s.level).map (lastAt s.all · (min m (nodes s).length + 1))) hi
      (min m (nodes s).length + 1) (Nat.le_add_left 1 _) s.all.length s (((min m (nodes s).length : Nat) : Int) + 1) [] h (Nat.le_add_right _ _)
      (fun i hi' => by
        rw [getD_map_range _ _ hi']
        exact h.inv.lastAt_isUpd (Nat.succ_pos _) (Nat.lt_of_lt_of_le hi' h.inv.lvl.2))
    simp only [Nat.add_sub_cancel, List.nil_append] at r2 r3
    exact ⟨r1, fun e => Bool.noConfusion e, by rw [r3, hrest], by rw [r2, hsel]⟩

theorem getByRankRange_ro_refines {s : SL} (h : OInv s) (a b : Int)
    (hpos : 1 ≤ (ZSetA.sanitize s.length.toNat a b).1 ∧ 1 ≤ (ZSetA.sanitize s.length.toNat a b).2) :
    (getByRankRange s a b false).1 = s ∧
    (getByRankRange s a b false).2 = (ZSetA.getByRankRange (nodes s) a b false).1 :=
  have ⟨_, h2, _, h4⟩ := getByRankRange_refines h a b false hpos
  ⟨h2 rfl, h4⟩

theorem getByRankRange_rm_refines {s : SL} (h : OInv s) (a b : Int)
    (hpos : 1 ≤ (ZSetA.sanitize s.length.toNat a b).1 ∧ 1 ≤ (ZSetA.sanitize s.length.toNat a b).2) :
    OInv (getByRankRange s a b true).1 ∧
    nodes (getByRankRange s a b true).1 = (ZSetA.getByRankRange (nodes s) a b true).2 ∧
    (getByRankRange s a b true).2 = (ZSetA.getByRankRange (nodes s) a b true).1 :=
  have ⟨h1, _, h3, h4⟩ := getByRankRange_refines h a b true hpos
  ⟨h1, h3, h4⟩

/-! ### GetByScoreRange -/

theorem walk_fst_indep (all : List Tower) (i : Nat) (P : Node → Bool) :
    ∀ fuel x r r', (walk all i (fun _ f => P f) fuel x r).1 = (walk all i (fun _ f => P f) fuel x r').1 := by
  intro fuel
  induction fuel with
  | zero => intro x r r'; rfl
  | succ fuel ih =>
    intro x r r'
    simp only [walk]
    cases fwd all x i with
    | none => rfl
    | some q =>
      simp only
      by_cases hp : P (nodeOf all q) = true
      · simp only [hp, if_true]; exact ih q _ _
      · simp only [hp]; rfl

theorem plainDescend_spec {s : SL} (hinv : Inv s) (P : Node → Bool) {c : Nat} (hc1 : 1 ≤ c) (hcl : c ≤ s.all.length)
    (hst : Steers s.all (fun _ f => P f) c) :
    ∀ i, i ≤ s.level → plainDescend s.all P i (lastAt s.all i c) = c - 1 := by
  intro i
  induction i with
  | zero => intro _; rw [plainDescend, hinv.lastAt_zero hcl]
  | succ i ih =>
    intro hil
    rw [plainDescend, walk_fst_indep s.all i P s.all.length _ 0 (lastAt s.all (i + 1) c : Int),
      hinv.walk_eq hst hc1 hcl hil]
    exact ih (Nat.le_of_lt hil)

theorem forwardLoop_spec {s : SL} (hinv : Inv s) (stop : Node → Bool) :
    ∀ fuel c' limit acc, (nodes s).length ≤ fuel + c' →
      forwardLoop s.all stop fuel (c' + 1) limit acc =
        acc ++ (((nodes s).drop c').takeWhile (fun n => !stop n)).take limit := by
  intro fuel
  induction fuel with
  | zero =>
    intro c' limit acc hf
    rw [forwardLoop, List.drop_of_length_le (Nat.le_trans hf (Nat.le_of_eq (Nat.zero_add _))), List.takeWhile_nil,
      List.take_nil, List.append_nil]
  | succ fuel ih =>
    intro c' limit acc hf
    rw [forwardLoop]
    by_cases hc : c' < (nodes s).length ∧ limit > 0
    · obtain ⟨l', rfl⟩ := Nat.exists_eq_add_one.mpr hc.2
      have hc1 : c' < (nodes s).length := hc.1
      rw [if_pos ⟨(succ_lt_length_all hinv).mpr hc1, hc.2⟩, nodeOf_getElem hinv hc1, List.drop_eq_getElem_cons hc1, List.takeWhile_cons]
      by_cases hs : stop (nodes s)[c'] = true
      · rw [if_pos hs, hs]
        exact (List.append_nil acc).symm
      · rw [if_neg hs, ih _ _ _ (by omega), Bool.eq_false_iff.mpr hs, List.append_assoc]
        rfl
    · rw [if_neg fun h => hc ⟨(succ_lt_length_all hinv).mp h.1, h.2⟩]
      by_cases hcl : c' < (nodes s).length
      · rw [show limit = 0 from Nat.eq_zero_of_not_pos fun h => hc ⟨hcl, h⟩]
        exact (List.append_nil acc).symm
      · rw [List.drop_of_length_le (Nat.le_of_not_lt hcl), List.takeWhile_nil, List.take_nil, List.append_nil]

theorem backwardLoop_spec {s : SL} (hinv : Inv s) (stop : Node → Bool) :
    ∀ fuel cur limit acc, cur ≤ fuel → cur < s.all.length →
      backwardLoop s.all stop fuel cur limit acc =
        acc ++ (((nodes s).take cur).reverse.takeWhile (fun n => !stop n)).take limit := by
  intro fuel
  induction fuel with
  | zero =>
    intro cur limit acc h1 _
    have : cur = 0 := Nat.le_zero.mp h1
    subst this
    rw [backwardLoop, List.take_zero, List.reverse_nil, List.takeWhile_nil, List.take_nil, List.append_nil]
  | succ fuel ih =>
    intro cur limit acc h1 hcl
    rw [backwardLoop]
    by_cases hc : cur ≥ 1 ∧ limit > 0
    · obtain ⟨c', rfl⟩ := Nat.exists_eq_add_one.mpr hc.1
      obtain ⟨l', rfl⟩ := Nat.exists_eq_add_one.mpr hc.2
      have hc'l : c' < (nodes s).length := by rw [length_all hinv] at hcl; exact Nat.lt_of_succ_lt_succ hcl
      have htake : ((nodes s).take (c' + 1)).reverse = (nodes s)[c'] :: ((nodes s).take c').reverse := by
        rw [List.take_add_one, List.getElem?_eq_getElem hc'l, Option.toList_some, List.reverse_append]
        rfl
      rw [if_pos hc, nodeOf_getElem hinv hc'l, htake, List.takeWhile_cons]
      by_cases hs : stop (nodes s)[c'] = true
      · rw [if_pos hs, hs]
        exact (List.append_nil acc).symm
      · rw [if_neg hs, Nat.add_sub_cancel, Nat.add_sub_cancel,
          ih c' l' _ (Nat.le_of_succ_le_succ h1) (Nat.lt_of_succ_lt hcl), Bool.eq_false_iff.mpr hs, List.append_assoc]
        rfl
    · rw [if_neg hc]
      by_cases hc0 : cur = 0
      · subst hc0
        rw [List.take_zero, List.reverse_nil, List.takeWhile_nil, List.take_nil, List.append_nil]
      · rw [show limit = 0 from Nat.eq_zero_of_not_pos fun h => hc ⟨Nat.pos_of_ne_zero hc0, h⟩]
        exact (List.append_nil acc).symm

/-- the loops stop on the negation of the test the list query keeps taking on -/
theorem not_le_lt_ite (c : Bool) (x b : Int) :
    (!(if c = true then decide (x ≤ b) else decide (x < b))) = if c = true then decide (x > b) else decide (x ≥ b) := by
  cases c <;> simp [← decide_not]

theorem score_le_lt_mono (c : Bool) (b : Int) (x y : Node) (h : x.score ≤ y.score) :
    (if c = true then decide (y.score ≤ b) else decide (y.score < b)) = true →
    (if c = true then decide (x.score ≤ b) else decide (x.score < b)) = true := by
  cases c <;> simp <;> omega

theorem score_lt_le_mono (c : Bool) (b : Int) (x y : Node) (h : x.score ≤ y.score) :
    (if c = true then decide (y.score < b) else decide (y.score ≤ b)) = true →
    (if c = true then decide (x.score < b) else decide (x.score ≤ b)) = true := by
  cases c <;> simp <;> omega

/-- `searchForward` / `searchReverse`: the descent ends on the last member that satisfies a score bound -/
theorem plainDescend_score {s : SL} (h : OInv s) (P : Node → Bool)
    (hP : ∀ a b : Node, a.score ≤ b.score → P b = true → P a = true) :
    plainDescend s.all P s.level 0 = ((nodes s).takeWhile P).length := by
  obtain ⟨hst, hc1, hcl⟩ := steers_of_sorted h.inv h.sorted fun a b hab =>
    hP a b (by unfold Lt at hab; omega)
  have := plainDescend_spec h.inv P hc1 hcl hst s.level (Nat.le_refl _)
  rwa [h.inv.lastAt_high (Nat.le_refl _)] at this

/-- **`GetByScoreRange`**, both directions, exclusive bounds and limit: what the list query returns -/
theorem getByScoreRange_refines {s : SL} (h : OInv s) (a b limit : Int) (exA exB : Bool) :
    getByScoreRange s a b limit exA exB = ZSetA.getByScoreRange (nodes s) a b limit exA exB := by
  have hlen := length_all h.inv
  unfold getByScoreRange ZSetA.getByScoreRange
  simp only
  generalize hq : (if decide (a > b) = true then (b, a, exB, exA) else (a, b, exA, exB)) = q
  obtain ⟨lo, hi, exLo, exHi⟩ := q
  simp only [isEmpty_nodes h.inv, decide_eq_true_eq]
  by_cases hemp : s.length = 0
  · rw [if_pos hemp, if_pos hemp]
  rw [if_neg hemp, if_neg hemp]
  by_cases hrev : decide (a > b) = true
  · -- reverse; from the header (`x = 0`) the backward loop returns nothing anyway
    simp only [hrev, Bool.not_true, Bool.false_eq_true, if_false]
    rw [plainDescend_score h _ (score_lt_le_mono exHi hi)]
    generalize (fun f : Node => if exHi = true then decide (f.score < hi) else decide (f.score ≤ hi)) = P
    have hle := takeWhile_length_le P (nodes s)
    rw [backwardLoop_spec h.inv _ s.all.length _ _ [] (by omega) (by omega),
      ← (takeWhile_append_dropWhile_len P (nodes s)).1, ite_eq_right_iff.mpr fun hz => by
        rw [List.length_eq_zero_iff.mp hz, List.reverse_nil, List.takeWhile_nil, List.take_nil]; rfl]
    simp only [List.nil_append, not_le_lt_ite]
  · -- forward
    simp only [hrev, Bool.not_false, if_true]
    rw [plainDescend_score h _ (score_le_lt_mono exLo lo)]
    generalize (fun f : Node => if exLo = true then decide (f.score ≤ lo) else decide (f.score < lo)) = P
    have hle := takeWhile_length_le P (nodes s)
    rw [forwardLoop_spec h.inv _ s.all.length _ _ [] (by omega), ← (takeWhile_append_dropWhile_len P (nodes s)).2]
    simp only [List.nil_append, not_le_lt_ite]

end NutsProofs.SkipL
