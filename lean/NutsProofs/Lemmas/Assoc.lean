/-
  Association lists keyed by byte strings (`Assoc`): the model's Go maps (`aget?` / `aput`, insertion order) and
  the in-order key sequence of a B+ tree (`upsert`, ascending keys: `Sorted`).
-/
import Nuts.Model.DB
import NutsProofs.Lemmas.Bytes
namespace NutsProofs
open Nuts Nuts.Model.DB

/-! ### lookups -/

theorem aget_mem {α} (m : Assoc α) (k : Bytes) (v : α) (h : aget? m k = some v) : (k, v) ∈ m := by
  induction m with
  | nil => cases h
  | cons q rest ih =>
    obtain ⟨k', v'⟩ := q
    simp only [aget?] at h
    split at h
    · rename_i hk; cases h; subst hk; exact List.mem_cons_self ..
    · exact List.mem_cons_of_mem _ (ih h)

theorem exists_aget_of_mem {α} {m : Assoc α} {q : Bytes × α} (h : q ∈ m) : ∃ v, aget? m q.1 = some v := by
  induction m with
  | nil => cases h
  | cons a rest ih =>
    obtain ⟨k', v'⟩ := a
    simp only [aget?]
    split
    · exact ⟨v', rfl⟩
    · rename_i hk
      rcases List.mem_cons.mp h with e | e
      · exact absurd (by rw [e]) hk
      · exact ih e

theorem aget_none_of_keys {β} (l : Assoc β) (k : Bytes) (h : ∀ p ∈ l, p.1 ≠ k) : aget? l k = none :=
  Option.eq_none_iff_forall_ne_some.mpr fun v hv => h (k, v) (aget_mem l k v hv) rfl

theorem find_eq_aget {β} (l : Assoc β) (k : Bytes) : (l.find? (·.1 = k)).map (·.2) = aget? l k := by
  induction l with
  | nil => rfl
  | cons p rest ih =>
    obtain ⟨k', v⟩ := p
    simp only [List.find?_cons, aget?]
    by_cases hk : k' = k
    · simp [hk]
    · simp [hk, ih]

/-! ### `aput` -/

theorem aget_aput_self {α} (m : Assoc α) (k : Bytes) (v : α) : aget? (aput m k v) k = some v := by
  induction m with
  | nil => simp [aput, aget?]
  | cons p rest ih =>
    obtain ⟨k', v'⟩ := p
    by_cases h : k' = k <;> simp [aput, aget?, h, ih]

theorem aget_aput_other {α} (m : Assoc α) (k k' : Bytes) (v : α) (h : k' ≠ k) :
    aget? (aput m k v) k' = aget? m k' := by
  induction m with
  | nil => simp [aput, aget?, Ne.symm h]
  | cons p rest ih =>
    obtain ⟨k0, v0⟩ := p
    by_cases h0 : k0 = k
    · subst h0; simp [aput, aget?, Ne.symm h]
    · by_cases h1 : k0 = k'
      · subst h1; simp [aput, aget?, h0]
      · simp [aput, aget?, h0, h1, ih]

theorem aget_aput {α} (m : Assoc α) (k k' : Bytes) (v : α) :
    aget? (aput m k v) k' = if k' = k then some v else aget? m k' := by
  by_cases h : k' = k
  · rw [if_pos h, h, aget_aput_self]
  · rw [if_neg h, aget_aput_other _ _ _ _ h]

theorem aget_ite_aput {α} (p : Prop) [Decidable p] (m : Assoc α) (k b : Bytes) (x : α) :
    aget? (if p then aput m k x else m) b = if p ∧ b = k then some x else aget? m b := by
  by_cases hp : p
  · rw [if_pos hp, aget_aput]; simp only [hp, true_and]
  · rw [if_neg hp, if_neg (fun h => hp h.1)]

theorem aput_same {α} (a : Assoc α) (k : Bytes) (v : α) (h : aget? a k = some v) : aput a k v = a := by
  induction a with
  | nil => simp [aget?] at h
  | cons p rest ih =>
    obtain ⟨k', v'⟩ := p
    simp only [aget?] at h
    simp only [aput]
    split at h
    · rename_i hk; cases h; subst hk; simp
    · rename_i hk; simp only [hk, if_false]; rw [ih h]

/-! ### `upsert` -/

theorem aget_upsert_self {α} (m : Assoc α) (k : Bytes) (v : α) : aget? (upsert m k v) k = some v := by
  induction m with
  | nil => simp [upsert, aget?]
  | cons p rest ih =>
    obtain ⟨k', v'⟩ := p
    simp only [upsert]
    split
    · simp [aget?]
    · simp [aget?]
    · rename_i hgt
      simp [aget?, bcmp_ne_of_lt ((bcmp_gt_iff_lt _ _).mp hgt), ih]

theorem aget_upsert_other {α} (m : Assoc α) (k k' : Bytes) (v : α) (h : k' ≠ k) :
    aget? (upsert m k v) k' = aget? m k' := by
  induction m with
  | nil => simp [upsert, aget?, Ne.symm h]
  | cons p rest ih =>
    obtain ⟨k0, v0⟩ := p
    simp only [upsert]
    split
    · simp [aget?, Ne.symm h]
    · rename_i heq
      have : k = k0 := (bcmp_eq_iff k k0).mp heq
      subst this
      simp [aget?, Ne.symm h]
    · by_cases h1 : k0 = k' <;> simp [aget?, h1, ih]

theorem mem_upsert {α} (m : Assoc α) (k : Bytes) (v : α) (p : Bytes × α) (h : p ∈ upsert m k v) : p = (k, v) ∨ p ∈ m := by
  induction m with
  | nil => simpa [upsert] using h
  | cons q rest ih =>
    simp only [upsert] at h
    split at h <;> simp only [List.mem_cons] at h ⊢
    · exact h
    · exact h.imp_right Or.inr
    · exact h.elim (fun h => Or.inr (Or.inl h)) fun h => (ih h).imp_right Or.inr

/-! ### sorted lists -/

/-- keys strictly ascending in `bytes.Compare` order -/
def Sorted {α} (m : Assoc α) : Prop := m.Pairwise fun a b => bcmp a.1 b.1 = .lt

theorem sorted_cons {α} {q : Bytes × α} {l : Assoc α} :
    Sorted (q :: l) ↔ (∀ p ∈ l, bcmp q.1 p.1 = .lt) ∧ Sorted l := List.pairwise_cons

theorem upsert_sorted {α} (m : Assoc α) (k : Bytes) (v : α) (h : Sorted m) : Sorted (upsert m k v) := by
  induction m with
  | nil => simp [upsert, Sorted]
  | cons q rest ih =>
    obtain ⟨h1, h2⟩ := sorted_cons.mp h
    simp only [upsert]
    split
    · rename_i hlt
      exact sorted_cons.mpr ⟨fun p hp => (List.mem_cons.mp hp).elim (· ▸ hlt) fun hp => bcmp_lt_trans hlt (h1 p hp), h⟩
    · rename_i heq
      obtain rfl := (bcmp_eq_iff _ _).mp heq
      exact sorted_cons.mpr ⟨h1, h2⟩
    · rename_i hgt
      have hlt := (bcmp_gt_iff_lt _ _).mp hgt
      exact sorted_cons.mpr ⟨fun p hp => (mem_upsert _ _ _ _ hp).elim (· ▸ hlt) (h1 p), ih h2⟩

theorem aget_of_mem_sorted {α} (m : Assoc α) (p : Bytes × α) (hs : Sorted m) (hp : p ∈ m) : aget? m p.1 = some p.2 := by
  induction m with
  | nil => cases hp
  | cons q rest ih =>
    obtain ⟨h1, h2⟩ := sorted_cons.mp hs
    rcases List.mem_cons.mp hp with rfl | hpr
    · simp [aget?]
    · simp only [aget?, bcmp_ne_of_lt (h1 p hpr), if_false]; exact ih h2 hpr

theorem aget_eq_some_iff {α} {m : Assoc α} (hs : Sorted m) {k : Bytes} {v : α} : aget? m k = some v ↔ (k, v) ∈ m :=
  ⟨aget_mem m k v, aget_of_mem_sorted m (k, v) hs⟩

theorem aget_filter {α} (q : Bytes × α → Bool) (m : Assoc α) (k : Bytes) (hs : Sorted m) :
    aget? (m.filter q) k = (aget? m k).filter fun v => q (k, v) :=
  Option.ext fun v => by
    rw [aget_eq_some_iff (hs.filter q), List.mem_filter, Option.filter_eq_some_iff, aget_eq_some_iff hs]

theorem MergeKV.sorted_ext {β} (a b : Assoc β) (ha : Sorted a) (hb : Sorted b) (h : ∀ k, aget? a k = aget? b k) : a = b := by
  have nd : ∀ {a : Assoc β}, Sorted a → a.Nodup := fun ha =>
    List.Pairwise.imp (fun hlt heq => bcmp_ne_of_lt hlt (congrArg Prod.fst heq)) ha
  refine List.Perm.eq_of_pairwise (le := fun (p q : Bytes × β) => bcmp p.1 q.1 = .lt) ?_ ha hb
    ((List.perm_ext_iff_of_nodup (nd ha) (nd hb)).mpr fun p => ?_)
  · intro p q _ _ h1 h2
    exact absurd rfl (bcmp_ne_of_lt (bcmp_lt_trans h1 h2))
  · rw [← aget_eq_some_iff ha (k := p.1) (v := p.2), ← aget_eq_some_iff hb (k := p.1) (v := p.2), h]

theorem upsert_same {α} (m : Assoc α) (k : Bytes) (v : α) (hs : Sorted m) (h : aget? m k = some v) : upsert m k v = m :=
  MergeKV.sorted_ext _ _ (upsert_sorted m k v hs) hs fun k' => by
    by_cases hk : k' = k
    · rw [hk, aget_upsert_self, h]
    · rw [aget_upsert_other _ _ _ _ hk]

/-! ### the cut of a sorted list at a key: `upsert` and erasing as below ++ … ++ above -/

theorem filter_of_above {α} {l : Assoc α} {k : Bytes} (h : ∀ p ∈ l, bcmp k p.1 = .lt) :
    l.filter (·.1 ≠ k) = l ∧ l.filter (fun p => bcmp p.1 k == .lt) = [] ∧ l.filter (fun p => bcmp k p.1 == .lt) = l :=
  ⟨List.filter_eq_self.mpr fun p hp => by simpa using (bcmp_ne_of_lt (h p hp)).symm,
   List.filter_eq_nil_iff.mpr fun p hp => by simp [bcmp_swap k p.1, h p hp],
   List.filter_eq_self.mpr fun p hp => by simp [h p hp]⟩

theorem above_tail {α} {q : Bytes × α} {rest : Assoc α} {k : Bytes} (hs : Sorted (q :: rest)) (hc : bcmp k q.1 ≠ .gt) :
    ∀ p ∈ rest, bcmp k p.1 = .lt :=
  fun p hp => bcmp_lt_of_ge_of_lt (by rwa [Ne, bcmp_gt_iff_lt] at hc) ((sorted_cons.mp hs).1 p hp)

theorem upsert_eq_split {α} (m : Assoc α) (k : Bytes) (v : α) (hs : Sorted m) :
    upsert m k v = m.filter (fun p => bcmp p.1 k == .lt) ++ (k, v) :: m.filter (fun p => bcmp k p.1 == .lt) := by
  induction m with
  | nil => rfl
  | cons q rest ih =>
    cases hc : bcmp k q.1 with
    | lt | eq =>
      obtain ⟨-, hb, ha⟩ := filter_of_above (above_tail (k := k) hs (by simp [hc]))
      simp [upsert, hc, bcmp_swap k q.1, hb, ha]
    | gt => simp [upsert, hc, bcmp_swap k q.1, ih (sorted_cons.mp hs).2]

theorem filter_ne_eq_split {α} (m : Assoc α) (k : Bytes) (hs : Sorted m) :
    m.filter (·.1 ≠ k) = m.filter (fun p => bcmp p.1 k == .lt) ++ m.filter (fun p => bcmp k p.1 == .lt) := by
  induction m with
  | nil => rfl
  | cons q rest ih =>
    rw [List.filter_cons, List.filter_cons, List.filter_cons]
    cases hc : bcmp k q.1 with
    | lt =>
      obtain ⟨h0, hb, ha⟩ := filter_of_above (above_tail (k := k) hs (by simp [hc]))
      rw [h0, hb, ha]; simp [hc, bcmp_swap k q.1, (bcmp_ne_of_lt hc).symm]
    | eq =>
      obtain ⟨h0, hb, ha⟩ := filter_of_above (above_tail (k := k) hs (by simp [hc]))
      rw [h0, hb, ha]; simp [((bcmp_eq_iff k q.1).mp hc).symm, bcmp_refl]
    | gt => rw [ih (sorted_cons.mp hs).2]; simp [hc, bcmp_swap k q.1, bcmp_ne_of_lt ((bcmp_gt_iff_lt _ _).mp hc)]

theorem KVRefine.filter_upsert_keep {α} (p : Bytes × α → Bool) (m : Assoc α) (k : Bytes) (v : α) (hs : Sorted m)
    (hp : p (k, v) = true) : (upsert m k v).filter p = upsert (m.filter p) k v := by
  rw [upsert_eq_split m k v hs, upsert_eq_split _ k v (hs.filter p)]
  simp [hp, List.filter_filter, Bool.and_comm]

theorem KVRefine.filter_upsert_drop {α} (p : Bytes × α → Bool) (m : Assoc α) (k : Bytes) (v : α) (hs : Sorted m)
    (hp : p (k, v) = false) : (upsert m k v).filter p = (m.filter p).filter (·.1 ≠ k) := by
  rw [upsert_eq_split m k v hs, filter_ne_eq_split _ k (hs.filter p)]
  simp [hp, List.filter_filter, Bool.and_comm]

/-! ### scans -/

theorem pairwise_getLast? {α} {R : α → α → Prop} {l : List α} (h : l.Pairwise R) {y : α} (hy : l.getLast? = some y) :
    ∀ x ∈ l, x = y ∨ R x y := by
  obtain ⟨init, rfl⟩ := List.getLast?_eq_some_iff.mp hy
  rw [List.pairwise_append] at h
  intro x hx
  rcases List.mem_append.mp hx with hx | hx
  · exact Or.inr (h.2.2 x hx y (by simp))
  · exact Or.inl (by simpa using hx)

theorem dropWhile_append_none {β} (f : β → Bool) (a b : List β) (h : ∀ x ∈ b, f x = false) :
    (a ++ b).dropWhile f = a.dropWhile f ++ b := by
  induction a with
  | nil => cases b with
    | nil => rfl
    | cons y _ => simp [h y]
  | cons x rest ih => simp only [List.cons_append, List.dropWhile_cons, ih]; split <;> rfl

/-- The hypothesis: `lo` can only hold on an initial stretch and, past that stretch, `mid` too.
(`findRange`: `lo` = below `start`, `mid` = not above `end`; the prefix scans: `lo` = below the prefix,
`mid` = has the prefix.) -/
theorem dropWhile_takeWhile_eq_filter {β} (lo mid : β → Bool) (l : List β)
    (h : l.Pairwise fun a b => (lo b → lo a) ∧ (mid b → lo a ∨ mid a)) :
    (l.dropWhile lo).takeWhile mid = l.filter fun x => !lo x && mid x := by
  induction l with
  | nil => rfl
  | cons q rest ih =>
    obtain ⟨hq, hr⟩ := List.pairwise_cons.mp h
    rw [List.dropWhile_cons, List.filter_cons]
    cases hl : lo q with
    | true => simpa using ih hr
    | false =>
      have hrest : rest.dropWhile lo = rest := by
        cases rest with
        | nil => rfl
        | cons y _ => simp [show lo y = false by simpa [hl] using (hq y (by simp)).1]
      cases hm : mid q with
      | true => simpa [List.takeWhile_cons, hm, hrest] using ih hr
      | false =>
        simp only [List.takeWhile_cons, hm, Bool.not_false, Bool.and_false, Bool.false_eq_true, if_false]
        exact (List.filter_eq_nil_iff.mpr fun y hy => by simpa [hl, hm] using fun _ => (hq y hy).2).symm

/-! ### mapping the values -/

theorem aget_map {α β} (f : α → β) (m : Assoc α) (k : Bytes) :
    aget? (m.map fun p => (p.1, f p.2)) k = (aget? m k).map f := by
  induction m with
  | nil => rfl
  | cons p rest ih => simp only [List.map_cons, aget?]; split <;> simp [ih]

theorem aput_map {α β} (f : α → β) (m : Assoc α) (k : Bytes) (v : α) :
    (aput m k v).map (fun p => (p.1, f p.2)) = aput (m.map fun p => (p.1, f p.2)) k (f v) := by
  induction m with
  | nil => rfl
  | cons p rest ih => simp only [List.map_cons, aput]; split <;> simp [ih]

theorem upsert_map {α β} (f : α → β) (m : Assoc α) (k : Bytes) (v : α) :
    (upsert m k v).map (fun p => (p.1, f p.2)) = upsert (m.map fun p => (p.1, f p.2)) k (f v) := by
  induction m with
  | nil => rfl
  | cons p rest ih => simp only [List.map_cons, upsert]; split <;> simp [ih]

theorem sorted_map {α β} (f : α → β) (m : Assoc α) : Sorted (m.map fun p => (p.1, f p.2)) ↔ Sorted m := by
  simp [Sorted, List.pairwise_map]

/-! ### `ds/list` and `ds/set` keep their `Items` map in the same association list -/

open Nuts.Model in
theorem listGet_eq (s : ListDS.St) (k : Bytes) : ListDS.get? s k = aget? s k := by
  induction s with
  | nil => rfl
  | cons p rest ih => simp only [ListDS.get?, aget?, ih]

open Nuts.Model in
theorem listPut_eq (s : ListDS.St) (k : Bytes) (v : List Bytes) : ListDS.put s k v = aput s k v := by
  induction s with
  | nil => rfl
  | cons p rest ih => simp only [ListDS.put, aput, ih]

open Nuts.Model in
theorem setGet_eq (s : SetDS.St) (k : Bytes) : SetDS.get? s k = aget? s k := by
  induction s with
  | nil => rfl
  | cons p rest ih => simp only [SetDS.get?, aget?, ih]

open Nuts.Model in
theorem setPut_eq (s : SetDS.St) (k : Bytes) (v : List Bytes) : SetDS.put s k v = aput s k v := by
  induction s with
  | nil => rfl
  | cons p rest ih => simp only [SetDS.put, aput, ih]

end NutsProofs
