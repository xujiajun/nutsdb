/-
  NutsProofs.Lemmas.ReopenAll — recovery rebuilds every structure: histories whose transactions hold records
  of all four data structures (key/value, list, set, sorted set). `Commit` writes all records and applies the
  list / set / sorted-set ones after the write loop (`buildIdxes`); `Open` applies them in log order while it
  replays. The appliers never look at anything but the structure they change, so both ways build the same
  lists, sets and sorted sets — provided no application panicked at commit time (then it does not at replay
  either) and sorted-set keys have exactly two parts (the two appliers differ on other shapes).
  What `Commit` does with the log is `Lemmas/LogCommit.lean`, what `Open` does with it `Lemmas/Replay.lean`; here is the
  invariant that ties them.
-/
import NutsProofs.Lemmas.LogCommit
namespace NutsProofs.ReopenAll
open Nuts Nuts.Model Nuts.Model.DB NutsProofs.Reopen NutsProofs.MergeKV NutsProofs.LogCommit

/-! ### the invariant, and `Commit` -/

/-- `LogInv` for all four structures, key+value mode: the key/value index is the fold over the key/value records of the
log, the lists / sets / sorted sets are the fold of `Open`'s appliers over the whole log, which never panics; every
record belongs to a committed transaction -/
structure AllInv (s : State) : Prop where
  shape : Shape s
  idx : normKV s.kv = kvOfLog ((allRecs s.files).filter isKVrec)
  allCommitted : ∀ x ∈ allRecs s.files, x.1.txid ∈ committedIds (allRecs s.files)
  ids : ∀ id, id ∈ s.committed ↔ id ∈ committedIds (allRecs s.files)
  structs : sv s = foldSV emptySV ((allRecs s.files).map (·.1)) false
  noPanic : NoPanic emptySV ((allRecs s.files).map (·.1)) false
  zok : ∀ x ∈ allRecs s.files, ZKeyOk x.1

/-- a write transaction: non-empty, records that fit a segment, one id, sorted-set keys of the form `key|score` -/
def AnyTx (seg : Nat) (t : List Rec) : Prop :=
  t ≠ [] ∧ ∃ tid, ∀ r ∈ t, ¬ r.size > seg ∧ r.txid = tid ∧ ZKeyOk r

theorem zKeyOk_markLast (r : Rec) (l : Bool) (h : ZKeyOk r) : ZKeyOk (markLast r l) := by
  unfold markLast; split <;> exact h

/-- replaying the records a transaction left in the log does to the structures what `buildIdxes` did -/
theorem foldSV_marked (v : SV) (t : List Rec) (hz : ∀ r ∈ t, ZKeyOk r) :
    foldSV v (marked t) false = foldSV v t true ∧ (NoPanic v t true → NoPanic v (marked t) false) := by
  induction t generalizing v with
  -- `v = v`: left to compare the two folds as written, `rfl` compares the appliers under the two flags first
  | nil => exact ⟨(rfl : v = v), fun _ => noPanic_nil _ _⟩
  | cons r rest ih =>
    have hstep : stepSV v (markLast r rest.isEmpty) false = stepSV v r true := by
      rw [stepSV_status, ← stepSV_flag v r (hz r (by simp))]
    obtain ⟨h1, h2⟩ := ih (stepSV v r true).1 (fun q hq => hz q (by simp [hq]))
    simp only [marked, noPanic_cons, foldSV, List.foldl_cons, hstep]
    exact ⟨h1, fun hnp => ⟨hnp.1, h2 hnp.2⟩⟩

/-- `Commit` of a transaction with records of any structure keeps the invariant, when it returns success -/
theorem commit_any (s : State) (t : List Rec) (h : AllInv s) (ht : AnyTx s.opt.seg t) (hok : (commit s t).2 = .ok ()) :
    AllInv (commit s t).1 ∧ (commit s t).1.opt = s.opt := by
  obtain ⟨hne, tid, hr⟩ := ht
  obtain ⟨_, ⟨E, hex, hE⟩, hcom⟩ := commit_log s t tid h.shape hne (fun r hr' => ⟨(hr r hr').1, (hr r hr').2.1⟩)
  obtain ⟨hsv, hnp⟩ := commit_sv s t hok
  obtain ⟨hall, hids⟩ := committedIds_commit (allRecs s.files) E t tid hne hex (fun r hr' => (hr r hr').2.1) h.allCommitted
  obtain ⟨hm1, hm2⟩ := foldSV_marked (sv s) t (fun r hr' => (hr r hr').2.2)
  refine ⟨⟨hE.shape, ?_, hE.log ▸ hall, fun id => by rw [hcom, hE.log, hids, h.ids], ?_, ?_, ?_⟩, hE.opt⟩
  · rw [hE.kv, normKV_rawFold, hE.log, List.filter_append, kvOfLog_append_list, h.idx]
  · rw [hsv, hE.log, List.map_append, hex, foldSV_append, ← h.structs, hm1]
  · rw [hE.log, List.map_append, hex, noPanic_append, ← h.structs]
    exact ⟨h.noPanic, hm2 hnp⟩
  · rw [hE.log]
    exact fun x hx => (List.mem_append.mp hx).elim (h.zok x)
      (forall_marked zKeyOk_markLast hex (fun r hr' => (hr r hr').2.2) x)

/-! ### `Open` -/

/-- **`Open` after anything that only appended unmarked records** `E` of other transactions (key+value mode):
nothing (`E = []`: a clean shutdown), or what a crash inside `Commit` or a `Commit` that gave up wrote -/
theorem AllInv.open_suffix {s : State} (h : AllInv s) (fs : List File) (E : List LogRec) (hne : fs ≠ [])
    (hunt : ∀ g ∈ fs, g.torn = false) (hrecs : allRecs fs = allRecs s.files ++ E) (hEs : ∀ x ∈ E, x.1.status = 0)
    (hEf : ∀ x ∈ E, ∀ y ∈ allRecs s.files, y.1.txid ≠ x.1.txid) (opt : Opts) (hm : opt.mode = 0) :
    (openDB opt fs).2 = .ok () ∧ (openDB opt fs).1.kv = normKV s.kv ∧ sv (openDB opt fs).1 = sv s ∧
    (∀ id, id ∈ (openDB opt fs).1.committed ↔ id ∈ s.committed) := by
  obtain ⟨h1, h2, h3, h4⟩ := Replay.open_of_log fs opt (allRecs s.files) E hne hunt hrecs h.allCommitted hEs hEf (Or.inl hm) h.noPanic
  exact ⟨h1, h2.trans h.idx.symm, h3.trans h.structs.symm, fun id => (h4 id).trans (h.ids id).symm⟩

/-- **Recovery rebuilds every structure** (key+value mode; the key/value index up to the status byte) -/
theorem open_rebuilds_all (s : State) (h : AllInv s) (opt : Opts) (hm : opt.mode = 0) :
    (openDB opt s.files).2 = .ok () ∧ (openDB opt s.files).1.kv = normKV s.kv ∧
    sv (openDB opt s.files).1 = sv s ∧ (openDB opt s.files).1.files = s.files ∧
    (∀ id, id ∈ (openDB opt s.files).1.committed ↔ id ∈ s.committed) := by
  obtain ⟨h1, h2, h3, h4⟩ := h.open_suffix s.files [] h.shape.files_ne h.shape.untorn (by simp) (by simp) (by simp) opt hm
  exact ⟨h1, h2, h3, (reopen_frame s h.shape opt).2.1, h4⟩

theorem allInv_reopen (s : State) (h : AllInv s) (opt : Opts) (hm : opt.mode = 0) : AllInv (openDB opt s.files).1 := by
  obtain ⟨_, hkv, hsv, hfiles, hids⟩ := open_rebuilds_all s h opt hm
  refine ⟨(reopen_frame s h.shape opt).1, ?_, ?_, fun id => ?_, ?_, ?_, ?_⟩ <;> rw [hfiles]
  · rw [hkv, normKV_idem]; exact h.idx
  · exact h.allCommitted
  · rw [hids]; exact h.ids id
  · rw [hsv]; exact h.structs
  · exact h.noPanic
  · exact h.zok

theorem allInv_init (opt : Opts) : AllInv (openDB opt []).1 := by
  have h := shape_init opt
  rw [Replay.openDB_nil] at h ⊢
  exact ⟨h, rfl, nofun, fun _ => Iff.rfl, rfl, noPanic_nil _ _, nofun⟩

/-- histories: commits of transactions with records of any structure that return success, and reopens in
key+value mode -/
inductive OpA where
  | commit (t : List Rec)
  | reopen (opt : Opts)

def stepA (s : State) : OpA → State
  | .commit t => (commit s t).1
  | .reopen o => (openDB o s.files).1

def OpsOkA (s : State) : List OpA → Prop
  | [] => True
  | .commit t :: rest => AnyTx s.opt.seg t ∧ (commit s t).2 = .ok () ∧ OpsOkA (commit s t).1 rest
  | .reopen o :: rest => o.mode = 0 ∧ OpsOkA (openDB o s.files).1 rest

theorem allInv_ops (ops : List OpA) (s : State) (h : AllInv s) (hok : OpsOkA s ops) : AllInv (ops.foldl stepA s) := by
  induction ops generalizing s with
  | nil => exact h
  | cons op rest ih =>
    cases op with
    | commit t => exact ih _ (commit_any s t h hok.1 hok.2.1).1 hok.2.2
    | reopen o => exact ih _ (allInv_reopen s h o hok.1) hok.2

theorem allInv_reached (opt0 : Opts) (ops : List OpA) (hok : OpsOkA (openDB opt0 []).1 ops) :
    AllInv (ops.foldl stepA (openDB opt0 []).1) :=
  allInv_ops ops _ (allInv_init opt0) hok

/-- the state when the process dies after the first `j` records of `t` are written (none of them the last) -/
def crashAfterA (s : State) (t : List Rec) (j : Nat) : State := (t.take j).foldl (fun s r => writeRec s r false) s

/-- **Crash inside Commit, any structures.** From a state with the invariant, a transaction with a fresh id
starts to commit and the process dies after `j` of its records — none of them the last — reached the files.
`Open` (key+value mode) on what is left succeeds and rebuilds the key/value index, the lists, the sets, the
sorted sets and the committed ids of the state before the transaction. -/
theorem crash_in_commit_any (s : State) (h : AllInv s) (t : List Rec) (tid : Nat) (j : Nat)
    (ht : ∀ r ∈ t, r.txid = tid ∧ r.status = 0)
    (hfresh : ∀ x ∈ allRecs s.files, x.1.txid ≠ tid) (opt : Opts) (hm : opt.mode = 0) :
    (openDB opt (crashAfterA s t j).files).2 = .ok () ∧
    (openDB opt (crashAfterA s t j).files).1.kv = normKV s.kv ∧
    sv (openDB opt (crashAfterA s t j).files).1 = sv s ∧
    (∀ id, id ∈ (openDB opt (crashAfterA s t j).files).1.committed ↔ id ∈ s.committed) := by
  obtain ⟨E, hex, hA⟩ := writeUnmarked_log (t.take j) s h.shape
  have hE : ∀ x ∈ E, x.1.txid = tid ∧ x.1.status = 0 := fun x hx =>
    ht x.1 (List.mem_of_mem_take (hex ▸ List.mem_map_of_mem hx))
  exact h.open_suffix (crashAfterA s t j).files E hA.shape.files_ne hA.shape.untorn hA.log (fun x hx => (hE x hx).2)
    (fun x hx y hy => by rw [(hE x hx).1]; exact hfresh y hy) opt hm

/-! ### the write loop, `buildIdxes` and `replay` each on its own, field by field (and two facts about folds)

Nothing above goes through these: `commit_any` and `open_suffix` read the same facts off `commit_log`, `commit_sv` and
`Replay.open_of_log`. -/

theorem foldLog_append (kv : Assoc (Assoc Idx)) (a b : List LogRec) : foldLog kv (a ++ b) = foldLog (foldLog kv a) b := by
  simp [foldLog, List.foldl_append]

theorem normKV_idem' (kv : Assoc (Assoc Idx)) : normKV (normKV kv) = normKV kv := normKV_idem kv

/-- the write loop of `Commit` on a transaction with records of any structure -/
theorem commitLoop_any (recs : List Rec) (tid : Nat) (s : State) (h : Shape s)
    (hr : ∀ r ∈ recs, ¬ r.size > s.opt.seg ∧ r.txid = tid) :
    (commitLoop s recs).2 = true ∧ Shape (commitLoop s recs).1 ∧ (commitLoop s recs).1.opt = s.opt ∧
    sv (commitLoop s recs).1 = sv s ∧
    (∃ extra : List LogRec, extra.map (·.1) = marked recs ∧
      allRecs (commitLoop s recs).1.files = allRecs s.files ++ extra ∧
      normKV (commitLoop s recs).1.kv = foldLog (normKV s.kv) (extra.filter isKVrec)) ∧
    (∀ id, id ∈ (commitLoop s recs).1.committed ↔ (id ∈ s.committed ∨ (recs ≠ [] ∧ id = tid))) := by
  obtain ⟨hfine, ⟨E, hex, hE⟩, hcom⟩ := commitLoop_log recs s h fun r hr' => (hr r hr').1
  exact ⟨hfine, hE.shape, hE.opt, commitLoop_sv recs s, ⟨E, hex, hE.log, by rw [hE.kv, normKV_rawFold]⟩,
    fun id => by rw [hcom, getLast_txid recs tid id fun r hr' => (hr r hr').2]⟩

/-- `buildIdxes` without a panic: the structures are the fold, nothing else changes -/
theorem buildIdxes_sv (recs : List Rec) (s : State) (h : (buildIdxes s recs).2 = false) :
    sv (buildIdxes s recs).1 = foldSV (sv s) recs true ∧ NoPanic (sv s) recs true ∧
    (buildIdxes s recs).1.kv = s.kv ∧ (buildIdxes s recs).1.files = s.files ∧
    (buildIdxes s recs).1.committed = s.committed ∧ (buildIdxes s recs).1.opt = s.opt ∧
    (buildIdxes s recs).1.activeFid = s.activeFid ∧ (buildIdxes s recs).1.hintFid = s.hintFid ∧
    (buildIdxes s recs).1.activeUnlinked = s.activeUnlinked := by
  obtain ⟨hi, hkv⟩ := buildIdxes_frame recs s
  exact ⟨(buildIdxes_ok recs s h).1, (buildIdxes_ok recs s h).2, hkv, hi.files, hi.committed, hi.opt, hi.activeFid,
    hi.hintFid, hi.activeUnlinked⟩

theorem replay_any (rs : List LogRec) (ids : List Nat) (s : State) (hm : s.opt.mode = 0)
    (hv : ∀ x ∈ rs, ids.contains x.1.txid = true) (hnp : NoPanic (sv s) (rs.map (·.1)) false) :
    (replay s rs ids).2 = .ok () ∧ (replay s rs ids).1.kv = foldLog s.kv (rs.filter isKVrec) ∧
    sv (replay s rs ids).1 = foldSV (sv s) (rs.map (·.1)) false ∧
    (replay s rs ids).1.committed = s.committed ∧ (replay s rs ids).1.files = s.files ∧
    (replay s rs ids).1.opt = s.opt ∧ (replay s rs ids).1.activeFid = s.activeFid ∧
    (replay s rs ids).1.hintFid = s.hintFid ∧ (replay s rs ids).1.activeUnlinked = s.activeUnlinked := by
  obtain ⟨h1, h2, h3⟩ := Replay.replay_ok rs ids s hv (Or.inl hm) hnp
  have hi := Replay.replay_idxOnly rs ids s
  exact ⟨h1, h2, h3, hi.committed, hi.files, hi.opt, hi.activeFid, hi.hintFid, hi.activeUnlinked⟩

end NutsProofs.ReopenAll
