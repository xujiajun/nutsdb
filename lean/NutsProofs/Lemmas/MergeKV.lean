/-
  NutsProofs.Lemmas.MergeKV — `Merge` on a key/value database, in process: every record Merge rewrites is the
  record its key's index entry already holds, so the rewrite transaction replaces each entry by one with the
  same bucket, key, value, timestamp, TTL and flag; entries of dead records are left alone. Hence the visible
  content of the index — and with it every key/value read in key+value mode, at every later time — is
  unchanged by a Merge that does not remove the file it writes to.

  In order, after two lemmas on `rawFold`: the invariant (`MInv`) and its key-by-key form (`Agrees`); why the
  states of key/value histories have it (a transaction's records end in the commit mark, `markedLog_tx`; `minv_of_ops`); the two moves that keep it, appending a committed batch
  and removing the lowest file (`append_minv`, `drop_minv`); then Merge itself: what it selects, why re-applying
  that leaves the visible index alone, one file (`rewrite_step`, `remove_step`), the loop (`go_spec`), `merge_spec`.
-/
import NutsProofs.Lemmas.Hints
namespace NutsProofs.MergeKV
open Nuts Nuts.Model Nuts.Model.DB NutsProofs.Reopen NutsProofs.Hints

theorem rawFold_sorted (L : List LogRec) (kv : Assoc (Assoc Idx)) (h : KVRefine.KVSorted kv) : KVRefine.KVSorted (rawFold kv L) := by
  induction L generalizing kv with
  | nil => exact h
  | cons x rest ih => exact ih _ (KVRefine.kvPut_sorted kv _ _ _ h)

theorem rawFold_entries (L : List LogRec) (kv : Assoc (Assoc Idx)) (hs : KVRefine.KVSorted kv)
    (b : Bytes) (m : Assoc Idx) (p : Bytes × Idx) (hm : aget? (rawFold kv L) b = some m) (hp : p ∈ m) :
    (∃ x ∈ L, b = x.1.bucket ∧ p = (x.1.key, ⟨x.1, x.2.1, x.2.2⟩)) ∨
    (∃ m0, aget? kv b = some m0 ∧ p ∈ m0 ∧ ∀ x ∈ L, ¬ (x.1.bucket = b ∧ x.1.key = p.1)) := by
  have hl := (rawFold_sorted L kv hs).look_of_mem hm hp
  rw [look_rawFold] at hl
  cases hy : lastOf L b p.1 with
  | some y =>
    obtain ⟨hyL, hb, hk⟩ := lastOf_some hy
    rw [hy] at hl
    exact Or.inl ⟨y, hyL, hb.symm, Prod.ext hk.symm (Option.some.inj hl).symm⟩
  | none =>
    rw [hy] at hl
    obtain ⟨m0, hm0, hp0⟩ := mem_of_look hl
    exact Or.inr ⟨m0, hm0, hp0, lastOf_none.mp hy⟩

/-! ### the invariant Merge works under -/

/-- every record is followed, at the same or a later position, by a record of its transaction with the commit mark -/
def MarkedLog (L : List LogRec) : Prop :=
  ∀ x ∈ L, ∃ y ∈ L, y.1.status = 1 ∧ y.1.txid = x.1.txid ∧ posLe (posOf x) (posOf y)

/-- what Merge needs and keeps, at clock `now`: `LogInv` weakened so that the index may hold, besides the last record
of each key the files still have, dead entries whose file is gone (DESIGN.md §0.18 goes through the clauses) -/
structure MInv (s : State) (now : Nat) : Prop where
  shape : Shape s
  packed : Packed s
  recs : ∀ x ∈ allRecs s.files, x.1.ds = dsKV ∧ ¬ x.1.size > s.opt.seg ∧ (x.1.flag = flagSet ∨ x.1.flag = flagDelete)
  bounds : ∀ x ∈ allRecs s.files, x.1.ts + x.1.ttl < 2 ^ 64
  idxok : AllB s.kv fun _ _ i => (i.r.flag = flagSet ∨ i.r.flag = flagDelete) ∧ i.r.ts + i.r.ttl < 2 ^ 64
  sorted : KVRefine.KVSorted s.kv
  /-- the entry of a record's key is at the record's position or later -/
  latest : ∀ x ∈ allRecs s.files, ∃ i, look s.kv x.1.bucket x.1.key = some i ∧ posLe (posOf x) (i.fid, i.pos)
  /-- an entry's hint addresses a record of the files equal to the cached one, or the entry is dead and its file
  is gone — and so is every file with a smaller id (Merge removes files in ascending order) -/
  hints : AllB s.kv fun b k i => i.r.key = k ∧ i.r.bucket = b ∧
      ((∃ x ∈ allRecs s.files, posOf x = (i.fid, i.pos) ∧ committedRec x.1 = committedRec i.r) ∨
       (dead i.r now = true ∧ i.fid < s.activeFid ∧ ∀ g ∈ s.files, i.fid < g.fid))
  committedIdx : AllB s.kv fun _ _ i => i.r.txid ∈ s.committed
  marks : MarkedLog (allRecs s.files)

/-! ### the invariant, key by key

`latest` and `hints` encode through positions one relation between index and log: under a key the log still has,
the entry is the key's last record; under any other key there is at most a dead entry whose file is gone. -/

structure Agrees (s : State) (now : Nat) : Prop where
  onLog : ∀ b k y, lastOf (allRecs s.files) b k = some y → (look s.kv b k).map normIdx = some (idxOf (cmt y))
  offLog : ∀ b k i, lastOf (allRecs s.files) b k = none → look s.kv b k = some i →
    i.r.key = k ∧ i.r.bucket = b ∧ dead i.r now = true ∧ i.fid < s.activeFid ∧ ∀ g ∈ s.files, i.fid < g.fid

/-- what a read can show of a record besides its bucket and key -/
def vrec (r : Rec) : Bytes × Nat × Nat × Nat := (r.value, r.ts, r.ttl, r.flag)

theorem committedRec_fields {r r' : Rec} (h : committedRec r = committedRec r') :
    r.bucket = r'.bucket ∧ r.key = r'.key ∧ r.flag = r'.flag ∧ vrec r = vrec r' ∧ r.ds = r'.ds ∧ r.txid = r'.txid ∧
    r.size = r'.size := by
  cases r; cases r'
  simp only [committedRec, Rec.mk.injEq] at h
  simp [h, Rec.size, vrec]

theorem normIdx_eq {i : Idx} {y : LogRec} (h : normIdx i = idxOf (cmt y)) :
    committedRec i.r = committedRec y.1 ∧ (i.fid, i.pos) = posOf y := by
  cases i
  simp only [normIdx, idxOf, cmt, Idx.mk.injEq] at h
  exact ⟨h.1, by simp [posOf, h.2.1, h.2.2]⟩

theorem MInv.agrees {s : State} {now : Nat} (h : MInv s now) : Agrees s now := by
  constructor
  · intro b k y hy
    obtain ⟨hyL, rfl, rfl⟩ := lastOf_some hy
    obtain ⟨i, hli, hle⟩ := h.latest y hyL
    rw [hli]
    obtain ⟨hik, hib, hh⟩ := h.hints.look hli
    rcases hh with ⟨x, hx, hxp, hxr⟩ | ⟨_, _, hlow⟩
    · -- `i` addresses a record `x` of this key: pos y ≤ pos i = pos x ≤ pos y
      obtain ⟨hxb, hxk, _⟩ := committedRec_fields hxr
      obtain ⟨y', hy', hle'⟩ := lastOf_mem h.packed.sorted hx
      rw [hxb, hxk, hib, hik, hy] at hy'
      cases hy'
      have : y = x := pos_inj _ h.packed.sorted y x hyL hx (posLe_antisymm (hxp ▸ hle) hle')
      subst this
      show some (normIdx i) = _
      simp only [normIdx, idxOf, cmt, ← hxr]
      simp only [posOf, Prod.mk.injEq] at hxp
      rw [hxp.1, hxp.2]
    · exfalso
      obtain ⟨g, hg, hgfid, _⟩ := (mem_allRecs_iff s.files y).mp hyL
      have := hlow g hg
      unfold posLe posOf at hle
      simp only [] at hle
      omega
  · intro b k i hn hli
    obtain ⟨hik, hib, hh⟩ := h.hints.look hli
    rcases hh with ⟨x, hx, _, hxr⟩ | hd
    · obtain ⟨hxb, hxk, _⟩ := committedRec_fields hxr
      exact absurd ⟨hxb.trans hib, hxk.trans hik⟩ (lastOf_none.mp hn x hx)
    · exact ⟨hik, hib, hd⟩

theorem Agrees.latest {s : State} {now : Nat} (ha : Agrees s now)
    (hs : (allRecs s.files).Pairwise (fun x y => posLt (posOf x) (posOf y))) :
    ∀ x ∈ allRecs s.files, ∃ i, look s.kv x.1.bucket x.1.key = some i ∧ posLe (posOf x) (i.fid, i.pos) := by
  intro x hx
  obtain ⟨y, hy, hle⟩ := lastOf_mem hs hx
  have := ha.onLog _ _ y hy
  cases hl : look s.kv x.1.bucket x.1.key with
  | none => rw [hl] at this; cases this
  | some i =>
    rw [hl] at this
    exact ⟨i, rfl, (normIdx_eq (Option.some.inj this)).2 ▸ hle⟩

theorem Agrees.hints {s : State} {now : Nat} (ha : Agrees s now) (hs : KVRefine.KVSorted s.kv) :
    AllB s.kv fun b k i => i.r.key = k ∧ i.r.bucket = b ∧
      ((∃ x ∈ allRecs s.files, posOf x = (i.fid, i.pos) ∧ committedRec x.1 = committedRec i.r) ∨
       (dead i.r now = true ∧ i.fid < s.activeFid ∧ ∀ g ∈ s.files, i.fid < g.fid)) := by
  intro b m p hm hp
  have hl := hs.look_of_mem hm hp
  cases hy : lastOf (allRecs s.files) b p.1 with
  | none =>
    obtain ⟨h1, h2, h3⟩ := ha.offLog b p.1 p.2 hy hl
    exact ⟨h1, h2, Or.inr h3⟩
  | some y =>
    have := ha.onLog b p.1 y hy
    rw [hl] at this
    obtain ⟨hr, hpos⟩ := normIdx_eq (Option.some.inj this)
    obtain ⟨hyL, hyb, hyk⟩ := lastOf_some hy
    obtain ⟨hb, hk, _⟩ := committedRec_fields hr
    exact ⟨hk.trans hyk, hb.trans hyb, Or.inl ⟨y, hyL, hpos.symm, hr.symm⟩⟩

/-! ### a transaction leaves its records marked (`MarkedLog`), in files from the active one on -/

theorem MarkedLog.append {A B : List LogRec} (hA : MarkedLog A) (hB : MarkedLog B) : MarkedLog (A ++ B) := by
  intro x hx
  rcases List.mem_append.mp hx with hx | hx
  · obtain ⟨y, hy, h⟩ := hA x hx; exact ⟨y, by simp [hy], h⟩
  · obtain ⟨y, hy, h⟩ := hB x hx; exact ⟨y, by simp [hy], h⟩

/-- the records of one transaction, ascending in position: the last one carries the mark -/
theorem markedLog_tx (extra : List LogRec) (t : List Rec) (tid : Nat) (hex : extra.map (·.1) = marked t) (hne : t ≠ [])
    (htid : ∀ x ∈ extra, x.1.txid = tid) (hs : extra.Pairwise (fun x y => posLt (posOf x) (posOf y))) : MarkedLog extra := by
  obtain ⟨z, hz, hzs⟩ := marked_getLast t hne
  rw [← hex, List.getLast?_map] at hz
  cases he : extra.getLast? with
  | none => rw [he] at hz; cases hz
  | some ez =>
    rw [he] at hz
    have hez := List.mem_of_getLast? he
    have hezs : ez.1.status = 1 := by
      have : ez.1 = z := Option.some.inj hz
      rw [this]; exact hzs
    intro x hx
    refine ⟨ez, hez, hezs, by rw [htid x hx, htid ez hez], ?_⟩
    rcases pairwise_getLast? hs he x hx with rfl | h
    · exact posLe_refl _
    · exact posLe_of_lt h

theorem commitLoop_new_pos (rs : List Rec) (st : State) (ex : List LogRec) (hst : Shape st)
    (hrr : ∀ r ∈ rs, r.ds = dsKV ∧ ¬ r.size > st.opt.seg)
    (he : allRecs (commitLoop st rs).1.files = allRecs st.files ++ ex) : ∀ y ∈ ex, st.activeFid ≤ y.2.1 := by
  obtain ⟨_, ⟨E, _, hE⟩, _⟩ := LogCommit.commitLoop_log rs st hst fun r hr => (hrr r hr).2
  rw [hE.log] at he
  rw [← List.append_cancel_left he]
  exact hE.pos

/-! ### states of key/value histories -/

theorem markedLog_commit (s : State) (t : List Rec) (hi : LogInv s) (hp : Packed s) (ht : KVTx s.opt.seg t)
    (hm : MarkedLog (allRecs s.files)) : MarkedLog (allRecs (commit s t).1.files) := by
  have hsorted := (commit_packed s t hi hp ht).sorted
  obtain ⟨hne, tid, hr⟩ := ht
  obtain ⟨_, ⟨extra, hex, _, hE⟩, _⟩ := commit_kv_log s t tid hi.shape hne hr
  rw [hE.log] at hsorted ⊢
  exact hm.append (markedLog_tx extra t tid hex hne
    (forall_marked (fun r l h => (markLast_txid r l).trans h) hex fun r hr' => (hr r hr').2.2) (List.pairwise_append.mp hsorted).2.1)

theorem markedLog_ops (ops : List Op) (s : State) (hi : LogInv s) (hp : Packed s) (hm : MarkedLog (allRecs s.files))
    (hok : OpsOk s ops) : MarkedLog (allRecs (ops.foldl stepOp s).files) :=
  (logInv_induct (P := fun s => Packed s ∧ MarkedLog (allRecs s.files))
    (fun s t hi h ht => ⟨commit_packed s t hi h.1 ht, markedLog_commit s t hi h.1 ht h.2⟩)
    (fun s o hi h => ⟨reopen_packed s hi h.1 o, by rw [(open_rebuilds s hi o).2.2.1]; exact h.2⟩) ops s hi ⟨hp, hm⟩ hok).2

theorem markedLog_init (opt : Opts) : MarkedLog (allRecs (openDB opt []).1.files) := by
  intro x hx; simp [openDB, fileEnsure, allRecs] at hx

theorem agrees_of_idx (s : State) (now : Nat) (h : normKV s.kv = kvOfLog (allRecs s.files)) : Agrees s now := by
  have hl : ∀ b k, (look s.kv b k).map normIdx = (lastOf (allRecs s.files) b k).map fun y => idxOf (cmt y) := by
    intro b k
    rw [← look_normKV, h, look_kvOfLog]
  constructor
  · intro b k y hy; rw [hl, hy]; rfl
  · intro b k i hn hli
    have := hl b k
    rw [hn, hli] at this
    cases this

/-- the states key/value histories reach satisfy the invariant (records fitting the segment size in force) -/
theorem minv_of_logInv (s : State) (now : Nat) (hi : LogInv s) (hp : Packed s)
    (hL : ∀ x ∈ allRecs s.files, KVRefine.RecOk x.1) (hsz : ∀ x ∈ allRecs s.files, ¬ x.1.size > s.opt.seg)
    (hmk : MarkedLog (allRecs s.files)) : MInv s now := by
  obtain ⟨hsorted, _, hidx, htx⟩ := KVRefine.kvOfLog_props (allRecs s.files) hL
  rw [← hi.idx] at hsorted hidx htx
  have hs := KVRefine.kvSorted_norm hsorted
  have ha := agrees_of_idx s now hi.idx
  refine ⟨hi.shape, hp, fun x hx => ⟨hi.kvOnly x hx, hsz x hx, (hL x hx).1⟩, fun x hx => (hL x hx).2, ?_, hs,
    ha.latest hp.sorted, ha.hints hs, ?_, hmk⟩
  · exact (KVRefine.allIdx_norm hidx).imp fun _ _ _ h => ⟨h.1, h.2.1⟩
  · refine (KVRefine.allIdx_norm htx).imp fun _ _ i h => ?_
    obtain ⟨x, hx, hxt⟩ := h
    exact (hi.ids _).mpr (hxt ▸ hi.allCommitted x hx)

theorem minv_of_ops (opt0 : Opts) (ops : List Op) (hok : OpsOk (openDB opt0 []).1 ops) (hrec : KVRefine.OpsRecOk ops)
    (hsz : ∀ x ∈ allRecs (ops.foldl stepOp (openDB opt0 []).1).files, ¬ x.1.size > (ops.foldl stepOp (openDB opt0 []).1).opt.seg)
    (now : Nat) : MInv (ops.foldl stepOp (openDB opt0 []).1) now := by
  obtain ⟨hinv, hpk, hlog⟩ := reached opt0 ops hok
  exact minv_of_logInv _ now hinv hpk (fun x hx => KVRefine.logOf_recOk ops hrec _ (hlog ▸ List.mem_map_of_mem hx)) hsz
    (markedLog_ops ops _ (logInv_init opt0) (packed_init opt0) (markedLog_init opt0) hok)

/-! ### the two moves of Merge

For one file Merge appends a transaction to the log (the rewrite) and then removes the file. Each move keeps the
invariant on its own; every crash point at a record boundary lies between two moves. -/

/-- **appending committed key/value records** to the log, indexed as written, keeps the invariant -/
theorem append_minv (s s1 : State) (now : Nat) (h : MInv s now) (extra : List LogRec)
    (hshape1 : Shape s1) (hpk1 : Packed s1) (hopt : s1.opt = s.opt) (hact : s.activeFid ≤ s1.activeFid)
    (hcom : ∀ id, id ∈ s.committed → id ∈ s1.committed)
    (hfids : ∀ g ∈ s1.files, g.fid ∈ s.files.map (·.fid) ∨ s.activeFid < g.fid)
    (hlog : allRecs s1.files = allRecs s.files ++ extra) (hkv : s1.kv = rawFold s.kv extra)
    (hextra : ∀ x ∈ extra, x.1.txid ∈ s1.committed ∧ x.1.ds = dsKV ∧ ¬ x.1.size > s.opt.seg ∧
      (x.1.flag = flagSet ∨ x.1.flag = flagDelete) ∧ x.1.ts + x.1.ttl < 2 ^ 64)
    (hexm : MarkedLog extra) : MInv s1 now := by
  have hsorted1 : KVRefine.KVSorted s1.kv := hkv ▸ rawFold_sorted extra s.kv h.sorted
  have ha := h.agrees
  have ha1 : Agrees s1 now := by
    constructor
    · intro b k y hy
      rw [hlog, lastOf_append] at hy
      rw [hkv, look_rawFold]
      cases he : lastOf extra b k with
      | some y' => rw [he] at hy; cases hy; rfl
      | none => rw [he] at hy; exact ha.onLog b k y hy
    · intro b k i hn hli
      rw [hlog, lastOf_append] at hn
      rw [hkv, look_rawFold] at hli
      cases he : lastOf extra b k with
      | some y' => rw [he] at hn; cases hn
      | none =>
        rw [he] at hn hli
        obtain ⟨h1, h2, h3, h4, h5⟩ := ha.offLog b k i hn hli
        refine ⟨h1, h2, h3, by omega, fun g hg => ?_⟩
        rcases hfids g hg with hg | hg
        · obtain ⟨g0, hg0, hg0f⟩ := List.mem_map.mp hg
          exact hg0f ▸ h5 g0 hg0
        · omega
  refine ⟨hshape1, hpk1, ?_, ?_, ?_, hsorted1, ha1.latest hpk1.sorted, ha1.hints hsorted1, ?_, hlog ▸ h.marks.append hexm⟩
  · intro x hx
    rw [hlog, hopt] at *
    rcases List.mem_append.mp hx with hx | hx
    · exact h.recs x hx
    · exact ⟨(hextra x hx).2.1, (hextra x hx).2.2.1, (hextra x hx).2.2.2.1⟩
  · intro x hx
    rw [hlog] at hx
    rcases List.mem_append.mp hx with hx | hx
    · exact h.bounds x hx
    · exact (hextra x hx).2.2.2.2
  · exact hkv ▸ rawFold_allB extra s.kv _ h.idxok fun x hx => (hextra x hx).2.2.2
  · exact hkv ▸ rawFold_allB extra s.kv _ (h.committedIdx.imp fun _ _ _ => hcom _) fun x hx => (hextra x hx).1

theorem filter_lowest (fs : List File) (hasc : (fs.map (·.fid)).Pairwise (· < ·)) (fid : Nat) (hmin : ∀ g ∈ fs, fid ≤ g.fid) :
    ∃ gone, fs = gone ++ fs.filter (·.fid != fid) ∧ ∀ g ∈ gone, g.fid = fid := by
  cases fs with
  | nil => exact ⟨[], rfl, nofun⟩
  | cons g rest =>
    rw [List.map_cons, List.pairwise_cons] at hasc
    have hrest : rest.filter (·.fid != fid) = rest := List.filter_eq_self.mpr fun x hx => by
      have := hasc.1 x.fid (List.mem_map_of_mem hx)
      have := hmin g (by simp)
      simp only [bne_iff_ne, ne_eq]; omega
    by_cases hg : g.fid = fid
    · exact ⟨[g], by simp [hg, hrest], by simp [hg]⟩
    · exact ⟨[], by simp [hg, hrest], nofun⟩

/-- the state after `os.Remove` of the merged file, as `merge.go` builds it -/
def dropFile (s1 : State) (fid : Nat) : State :=
  { s1 with files := s1.files.filter (·.fid != fid), activeUnlinked := s1.activeUnlinked || fid == s1.activeFid }

theorem mem_dropFile {s : State} {fid : Nat} {g : File} : g ∈ (dropFile s fid).files ↔ g ∈ s.files ∧ g.fid ≠ fid := by
  simp [dropFile]

theorem dropFile_log (s : State) (hp : Packed s) (fid : Nat) (hmin : ∀ g ∈ s.files, fid ≤ g.fid) :
    ∃ gone, allRecs s.files = gone ++ allRecs (dropFile s fid).files ∧ (∀ x ∈ gone, x.2.1 = fid) ∧
      ∀ x ∈ allRecs (dropFile s fid).files, fid < x.2.1 := by
  obtain ⟨gone, hsplit, hgone⟩ := filter_lowest s.files hp.fids fid hmin
  refine ⟨allRecs gone, by rw [← allRecs_append]; exact congrArg allRecs hsplit, fun x hx => ?_, fun x hx => ?_⟩
  · obtain ⟨g, hg, hgf, _⟩ := (mem_allRecs_iff gone x).mp hx
    exact hgf ▸ hgone g hg
  · obtain ⟨g, hg, hgf, _⟩ := (mem_allRecs_iff _ x).mp hx
    have := hmin g (mem_dropFile.mp hg).1
    have := (mem_dropFile.mp hg).2
    omega

theorem isFilter_eq_dead (r : Rec) (now : Nat) (h : r.flag = flagSet ∨ r.flag = flagDelete) : isFilter r now = dead r now := by
  unfold isFilter dead
  rcases h with h | h <;> simp [h, flagSet, flagDelete, flagRPop, flagLPop, flagLRem, flagLTrim, flagZRem, flagZRemRangeByRank, flagZPopMax, flagZPopMin]

/-- **removing the lowest file** keeps the invariant when no entry that points into it is live: its records are a
prefix of the log, and the entries left pointing into it become the dead ones the invariant allows -/
theorem drop_minv (s : State) (now : Nat) (h : MInv s now) (fid : Nat) (hne : fid ≠ s.activeFid)
    (hmin : ∀ g ∈ s.files, fid ≤ g.fid)
    (hdead : ∀ x ∈ allRecs s.files, x.2.1 = fid → ∀ i, look s.kv x.1.bucket x.1.key = some i → (i.fid, i.pos) = posOf x →
      isFilter x.1 now = true) : MInv (dropFile s fid) now := by
  obtain ⟨gone, hlog, hgone, hkept⟩ := dropFile_log s h.packed fid hmin
  have hsub : ∀ g ∈ (dropFile s fid).files, g ∈ s.files ∧ g.fid ≠ fid := fun _ => mem_dropFile.mp
  have hmem : ∀ x ∈ allRecs (dropFile s fid).files, x ∈ allRecs s.files := fun x hx => hlog ▸ List.mem_append_right _ hx
  have hlt : fid < s.activeFid := by
    obtain ⟨a, ha, haf⟩ := h.shape.active_mem
    have := hmin a ha; omega
  have hpk : Packed (dropFile s fid) :=
    ⟨List.Pairwise.sublist ((List.filter_sublist).map _) h.packed.fids, fun g hg => h.packed.offs g (hsub g hg).1,
      fun g hg hgf x hx => h.packed.active g (hsub g hg).1 hgf x hx⟩
  have ha := h.agrees
  have ha' : Agrees (dropFile s fid) now := by
    constructor
    · intro b k y hy
      exact ha.onLog b k y (by rw [hlog, lastOf_append, hy]; rfl)
    · intro b k i hn hli
      have hl : lastOf (allRecs s.files) b k = lastOf gone b k := by rw [hlog, lastOf_append, hn]; rfl
      cases hg : lastOf gone b k with
      | none =>
        obtain ⟨h1, h2, h3, h4, h5⟩ := ha.offLog b k i (hl.trans hg) hli
        exact ⟨h1, h2, h3, h4, fun g hg => h5 g (hsub g hg).1⟩
      | some y =>
        -- the key's last record was in the removed file; the entry points at it, so it is filtered, i.e. dead
        rw [hg] at hl
        obtain ⟨hyL, hyb, hyk⟩ := lastOf_some hl
        have hyf := hgone y (lastOf_some hg).1
        have hi := ha.onLog b k y hl
        have hli' : look s.kv b k = some i := hli
        rw [hli'] at hi
        obtain ⟨hr, hpos⟩ := normIdx_eq (Option.some.inj hi)
        obtain ⟨hb, hk, _⟩ := committedRec_fields hr
        have hfil := hdead y hyL hyf i (by rw [hyb, hyk]; exact hli') hpos
        rw [isFilter_eq_dead y.1 now (h.recs y hyL).2.2] at hfil
        have hif : i.fid = fid := by have := congrArg Prod.fst hpos; simpa [posOf, hyf] using this
        refine ⟨hk.trans hyk, hb.trans hyb, ?_, by show i.fid < s.activeFid; omega, ?_⟩
        · rw [← dead_committedRec, hr, dead_committedRec]; exact hfil
        · intro g hg
          have := hmin g (hsub g hg).1
          have := (hsub g hg).2
          omega
  obtain ⟨pre, a, hf, hfid, hpre⟩ := h.shape.split
  refine ⟨⟨⟨pre.filter (·.fid != fid), a, ?_, hfid, fun g hg => hpre g (List.mem_filter.mp hg).1⟩, h.shape.hint, ?_,
      fun g hg => h.shape.untorn g (hsub g hg).1⟩, hpk, fun x hx => h.recs x (hmem x hx), fun x hx => h.bounds x (hmem x hx),
    h.idxok, h.sorted, ha'.latest hpk.sorted, ha'.hints h.sorted, h.committedIdx, ?_⟩
  · show s.files.filter _ = _
    rw [hf, List.filter_append]
    have : (a.fid != fid) = true := by simp; omega
    simp [this]
  · show (s.activeUnlinked || fid == s.activeFid) = false
    rw [h.shape.linked]; simpa using hne
  · -- a remaining record's mark lies at or after it, hence not in the removed (lowest) file
    intro x hx
    have hxf := hkept x hx
    obtain ⟨y, hy, hys, hyt, hyp⟩ := h.marks x (hmem x hx)
    refine ⟨y, ?_, hys, hyt, hyp⟩
    rcases List.mem_append.mp (hlog ▸ hy) with hy | hy
    · have := hgone y hy
      unfold posLe posOf at hyp
      simp only [] at hyp
      omega
    · exact hy

/-! ### what Merge selects from a file -/

/-- a record is rewritten iff it is live and is the very record its key's entry points at -/
def isSel (s : State) (f : File) (now : Nat) (p : Nat × Rec) : Bool :=
  !isFilter p.2 now && (match look s.kv p.2.bucket p.2.key with
    | some i => i.fid == f.fid && i.pos == p.1
    | none => false)

theorem isSel_iff {s : State} {f : File} {now : Nat} {p : Nat × Rec} :
    isSel s f now p = true ↔
      isFilter p.2 now = false ∧ ∃ i, look s.kv p.2.bucket p.2.key = some i ∧ i.fid = f.fid ∧ i.pos = p.1 := by
  unfold isSel
  cases look s.kv p.2.bucket p.2.key <;> simp

/-- the entry at a record's own position caches that record — same flag, so `pendingMerge` says yes for a live one -/
theorem entry_at_look {s : State} {now : Nat} (h : MInv s now) {x : LogRec} (hx : x ∈ allRecs s.files) {i : Idx}
    (hl : look s.kv x.1.bucket x.1.key = some i) (hpos : (i.fid, i.pos) = posOf x) : committedRec x.1 = committedRec i.r := by
  -- the entry is the last record of the key, and positions name records
  obtain ⟨y, hy, _⟩ := lastOf_mem h.packed.sorted hx
  have hi := h.agrees.onLog _ _ y hy
  rw [hl] at hi
  obtain ⟨hr, hp⟩ := normIdx_eq (Option.some.inj hi)
  rw [pos_inj _ h.packed.sorted x y hx (lastOf_some hy).1 (hpos.symm.trans hp)]
  exact hr.symm

theorem entry_at_pos (s : State) (now : Nat) (h : MInv s now) (x : LogRec) (hx : x ∈ allRecs s.files)
    (m : Assoc Idx) (i : Idx) (hm : aget? s.kv x.1.bucket = some m) (hi : aget? m x.1.key = some i)
    (hpos : (i.fid, i.pos) = posOf x) : committedRec x.1 = committedRec i.r :=
  entry_at_look h hx (by unfold look; rw [hm]; exact hi) hpos

theorem pendingMerge_kv {s : State} {r : Rec} {i : Idx} (hds : r.ds = dsKV) (hl : look s.kv r.bucket r.key = some i) :
    pendingMerge s r = .ok (i.r.flag == flagSet) := by
  obtain ⟨m, hm, hi⟩ := look_split hl
  simp [pendingMerge, hds, hm, hi]

/-- one record of the scan: under the invariant the superseded test (`fileID` / `dataPos` comparison) says
whether the entry sits at the record's own position, and `getPendingMergeEntries` then says yes -/
theorem select_step (s : State) (now : Nat) (h : MInv s now) (f : File) (hf : f ∈ s.files) (off : Nat) (r : Rec)
    (hp : (off, r) ∈ f.recs) (rest : List (Nat × Rec)) (acc : List Rec) :
    mergeSelect.go s f now ((off, r) :: rest) acc =
      mergeSelect.go s f now rest (if isSel s f now (off, r) then acc ++ [r] else acc) := by
  have hmem := mem_allRecs_of s.files f hf (off, r) hp
  obtain ⟨i, hlook, hle⟩ := h.latest _ hmem
  obtain ⟨hds, _, hflag⟩ := h.recs _ hmem
  simp only [posLe, posOf] at hlook hle hds hflag
  have hlook' : (aget? s.kv r.bucket).bind (aget? · r.key) = some i := hlook
  conv => lhs; unfold mergeSelect.go
  simp only [isSel, hlook, hlook', pendingMerge_kv hds hlook]
  by_cases hfil : isFilter r now = true
  · simp [hfil]
  · have hfil' : isFilter r now = false := by simpa using hfil
    by_cases hself : i.fid = f.fid ∧ i.pos = off
    · -- the entry is this record, whose flag is Set
      obtain ⟨_, _, hfl, _⟩ := committedRec_fields (entry_at_look h hmem hlook (by simp [posOf, hself.1, hself.2]))
      have hset : i.r.flag = flagSet := by
        rw [← hfl]
        rcases hflag with h1 | h1
        · exact h1
        · simp [isFilter, h1] at hfil'
      simp [hfil', hself.1, hself.2, hset]
    · have hnewer : (decide (i.fid > f.fid) || (decide (i.fid = f.fid) && decide (i.pos > off))) = true := by
        simp only [Bool.or_eq_true, Bool.and_eq_true, decide_eq_true_eq]
        omega
      have hsel : (i.fid == f.fid && i.pos == off) = false := by
        simp only [Bool.and_eq_false_iff, beq_eq_false_iff_ne]
        omega
      simp [hfil', hnewer, hsel]

theorem mergeSelect_eq (s : State) (now : Nat) (h : MInv s now) (f : File) (hf : f ∈ s.files) :
    mergeSelect s f now = .ok ((f.recs.filter (isSel s f now)).map (·.2)) := by
  have go : ∀ (l : List (Nat × Rec)) (acc : List Rec), (∀ p ∈ l, p ∈ f.recs) →
      mergeSelect.go s f now l acc = .ok (acc ++ (l.filter (isSel s f now)).map (·.2)) := by
    intro l
    induction l with
    | nil => intro acc _; simp [mergeSelect.go]
    | cons p rest ih =>
      intro acc hl
      rw [select_step s now h f hf p.1 p.2 (hl p (by simp)), ih _ (fun q hq => hl q (by simp [hq])), List.filter_cons]
      split <;> simp
  unfold mergeSelect
  rw [go f.recs [] (fun p hp => hp)]
  simp

/-! ### the visible content of the index -/

def visBucket (m : Assoc Idx) : List (Bytes × (Bytes × Nat × Nat × Nat)) := m.map fun p => (p.1, vrec p.2.r)
def visKV (kv : Assoc (Assoc Idx)) : List (Bytes × List (Bytes × (Bytes × Nat × Nat × Nat))) := kv.map fun p => (p.1, visBucket p.2)

theorem visKV_kvPut_same (kv : Assoc (Assoc Idx)) (r : Rec) (fid pos : Nat) (i : Idx) (hs : KVRefine.KVSorted kv)
    (hl : look kv r.bucket r.key = some i) (hv : vrec r = vrec i.r) : visKV (kvPut kv r fid pos) = visKV kv := by
  obtain ⟨m, hm, hi⟩ := look_split hl
  have hb : visBucket (upsert m r.key ⟨r, fid, pos⟩) = visBucket m :=
    let g := fun i : Idx => vrec i.r
    (upsert_map g m r.key _).trans
      (upsert_same _ _ _ ((sorted_map g m).mpr (hs _ _ hm)) (by rw [aget_map g, hi]; exact congrArg some hv.symm))
  unfold kvPut visKV
  rw [aput_map visBucket, hm, Option.getD_some, hb]
  apply aput_same
  rw [aget_map visBucket, hm]; rfl

theorem rawFold_vis (L : List LogRec) (kv : Assoc (Assoc Idx)) (hs : KVRefine.KVSorted kv)
    (hq : ∀ x ∈ L, ∃ i, look kv x.1.bucket x.1.key = some i ∧ vrec x.1 = vrec i.r) :
    visKV (rawFold kv L) = visKV kv ∧ KVRefine.KVSorted (rawFold kv L) := by
  refine ⟨?_, rawFold_sorted L kv hs⟩
  induction L generalizing kv with
  | nil => rfl
  | cons x rest ih =>
    obtain ⟨i, hl, hv⟩ := hq x (by simp)
    show visKV (rawFold (kvPut kv x.1 x.2.1 x.2.2) rest) = _
    rw [ih _ (KVRefine.kvPut_sorted kv x.1 x.2.1 x.2.2 hs), visKV_kvPut_same kv x.1 x.2.1 x.2.2 i hs hl hv]
    intro y hy
    obtain ⟨j, hlj, hvj⟩ := hq y (by simp [hy])
    rw [look_kvPut]
    split
    · -- both are what the original entry of this key shows
      rename_i hsame
      rw [hsame.1, hsame.2, hl] at hlj
      cases hlj
      exact ⟨_, rfl, hvj.trans hv.symm⟩
    · exact ⟨j, hlj, hvj⟩

/-! ### one file of Merge: the rewrite -/

/-- the records of the rewrite transaction -/
def retag (tid : Nat) (recs : List Rec) : List Rec := recs.map fun r => { r with txid := tid, status := 0 }

theorem rewrite_eq (s : State) (recs : List Rec) (tid : Nat) (hne : recs ≠ []) :
    rewrite s recs tid = ((commit (rotate s) (retag tid recs)).1,
      if (commit (rotate s) (retag tid recs)).2.isPanic then .panic else .ok ()) := by
  have he : recs.isEmpty = false := by cases recs with | nil => exact absurd rfl hne | cons _ _ => rfl
  unfold rewrite
  simp only [he, Bool.false_eq_true, if_false]
  rfl

/-- the state after the rewrite transaction of one file (before the file is removed) -/
theorem rewrite_step (s : State) (now : Nat) (h : MInv s now) (f : File) (hf : f ∈ s.files) (tid : Nat)
    (hne : (f.recs.filter (isSel s f now)).map (·.2) ≠ []) :
    let recs := (f.recs.filter (isSel s f now)).map (·.2)
    let s1 := (rewrite s recs tid).1
    (rewrite s recs tid).2 = .ok () ∧ Shape s1 ∧ Packed s1 ∧ s1.opt = s.opt ∧ s.activeFid < s1.activeFid ∧
    visKV s1.kv = visKV s.kv ∧ KVRefine.KVSorted s1.kv ∧
    (∀ id, id ∈ s.committed → id ∈ s1.committed) ∧
    (∀ g ∈ s1.files, g.fid ∈ s.files.map (·.fid) ∨ s.activeFid < g.fid) ∧
    ∃ extra : List LogRec, allRecs s1.files = allRecs s.files ++ extra ∧ s1.kv = rawFold s.kv extra ∧
      (∀ x ∈ extra, s.activeFid < x.2.1 ∧ x.1.txid ∈ s1.committed ∧ x.1.ds = dsKV ∧ ¬ x.1.size > s.opt.seg ∧
        ∃ p ∈ f.recs, isSel s f now p = true ∧ x.1.bucket = p.2.bucket ∧ x.1.key = p.2.key ∧ vrec x.1 = vrec p.2 ∧ x.1.flag = p.2.flag) ∧
      (∀ p ∈ f.recs, isSel s f now p = true → ∃ x ∈ extra, x.1.bucket = p.2.bucket ∧ x.1.key = p.2.key) ∧
      MarkedLog extra := by
  intro recs s1
  have hrecsok : ∀ r ∈ retag tid recs, r.ds = dsKV ∧ ¬ r.size > (rotate s).opt.seg ∧ r.txid = tid := by
    intro r hr
    obtain ⟨q, hq, rfl⟩ := List.mem_map.mp hr
    obtain ⟨p, hp, rfl⟩ := List.mem_map.mp hq
    obtain ⟨h1, h2, _⟩ := h.recs _ (mem_allRecs_of s.files f hf p (List.mem_filter.mp hp).1)
    exact ⟨h1, h2, rfl⟩
  have hds : ∀ r ∈ retag tid recs, r.ds = dsKV := fun r hr => (hrecsok r hr).1
  have hretag_ne : retag tid recs ≠ [] := fun hnil => hne (List.map_eq_nil_iff.mp hnil)
  -- it is `rotate` and then an ordinary commit
  have hrot := LogCommit.rotate_appended s h.shape
  obtain ⟨hfine, ⟨extra, hex, hE⟩, hcom⟩ :=
    LogCommit.commitLoop_log (retag tid recs) (rotate s) hrot.shape fun r hr => (hrecsok r hr).2.1
  have hA := hrot.trans hE
  have hkv := hA.kv
  rw [List.nil_append, ReopenAll.filter_isKVrec_kvOnly extra (forall_marked (fun r l h => (markLast_ds r l).trans h) hex hds)] at hkv
  have hrw : rewrite s recs tid = ((commitLoop (rotate s) (retag tid recs)).1, .ok ()) := by
    rw [rewrite_eq s recs tid hne, LogCommit.commit_kvOnly _ _ hretag_ne hfine hds]; rfl
  have hs1 : s1 = (commitLoop (rotate s) (retag tid recs)).1 := by show (rewrite s recs tid).1 = _; rw [hrw]
  have hfiles := hA.log
  have hact := hE.active
  have hpos := hE.pos
  have hr1 : (rotate s).activeFid = s.activeFid + 1 := rfl
  have hpk : Packed s1 := by
    rw [hs1]; exact hA.packed h.packed
  have hcorr : extra.map (fun x => committedRec x.1) =
      (f.recs.filter (isSel s f now)).map fun p => committedRec { p.2 with txid := tid, status := 0 } := by
    have := congrArg (List.map committedRec) hex
    rwa [marked_committed, List.map_map, retag, List.map_map, List.map_map] at this
  have hextra : ∀ x ∈ extra, ∃ p ∈ f.recs, isSel s f now p = true ∧
      committedRec x.1 = committedRec { p.2 with txid := tid, status := 0 } := by
    intro x hx
    obtain ⟨p, hp, hpx⟩ := List.mem_map.mp (hcorr ▸ List.mem_map_of_mem (f := fun x : LogRec => committedRec x.1) hx)
    exact ⟨p, (List.mem_filter.mp hp).1, (List.mem_filter.mp hp).2, hpx.symm⟩
  have hvis := rawFold_vis extra s.kv h.sorted (by
    intro x hx
    obtain ⟨p, hp, hsel, hx⟩ := hextra x hx
    obtain ⟨hb, hk, _, hv, _⟩ := committedRec_fields hx
    -- the entry of p's key is p itself
    obtain ⟨_, i, hl, hfid, hpos⟩ := isSel_iff.mp hsel
    obtain ⟨_, _, _, hvi, _⟩ := committedRec_fields
      (entry_at_look h (mem_allRecs_of s.files f hf p hp) hl (by simp [posOf, hfid, hpos]))
    exact ⟨i, by rw [hb, hk]; exact hl, hv.trans hvi⟩)
  refine ⟨by rw [hrw], by rw [hs1]; exact hA.shape, hpk, by rw [hs1]; exact hA.opt, by rw [hs1]; omega,
    by rw [hs1, hkv]; exact hvis.1, by rw [hs1, hkv]; exact hvis.2,
    fun id hid => by rw [hs1]; exact (hcom id).mpr (Or.inl hid), by rw [hs1]; exact hA.fids, extra,
    by rw [hs1]; exact hfiles, by rw [hs1, hkv], ?_, ?_, ?_⟩
  · intro x hx
    obtain ⟨p, hp, hsel, hxp⟩ := hextra x hx
    obtain ⟨hb, hk, hfl, hv, hd, htx, hsz⟩ := committedRec_fields hxp
    obtain ⟨hpd, hpsz, _⟩ := h.recs _ (mem_allRecs_of s.files f hf p hp)
    have htx' : x.1.txid = tid := htx
    refine ⟨by have := hpos x hx; omega, ?_, hd.trans hpd, by rw [hsz]; exact hpsz, p, hp, hsel, hb, hk, hv, hfl⟩
    rw [hs1, htx']
    exact (hcom tid).mpr (Or.inr ((LogCommit.getLast_txid _ tid tid fun r hr => (hrecsok r hr).2.2).mpr ⟨hretag_ne, rfl⟩))
  · intro p hp hsel
    obtain ⟨x, hx, hxp⟩ := List.mem_map.mp (hcorr ▸ List.mem_map_of_mem
      (f := fun p : Nat × Rec => committedRec { p.2 with txid := tid, status := 0 }) (List.mem_filter.mpr ⟨hp, hsel⟩))
    obtain ⟨hb, hk, _⟩ := committedRec_fields hxp
    exact ⟨x, hx, hb, hk⟩
  · have hsorted1 := hpk.sorted
    rw [hs1, hfiles, List.pairwise_append] at hsorted1
    refine markedLog_tx extra (retag tid recs) tid hex hretag_ne ?_ hsorted1.2.1
    intro x hx
    obtain ⟨p, _, _, hxp⟩ := hextra x hx
    obtain ⟨_, _, _, _, _, htx, _⟩ := committedRec_fields hxp
    exact htx

/-! ### one file of Merge: rewrite, then removal -/

/-- what `rewrite_step` says of a new record is what `append_minv` asks of it -/
theorem rewritten_ok (s : State) (now : Nat) (h : MInv s now) (f : File) (hf : f ∈ s.files) (s1 : State) (x : LogRec)
    (hx : s.activeFid < x.2.1 ∧ x.1.txid ∈ s1.committed ∧ x.1.ds = dsKV ∧ ¬ x.1.size > s.opt.seg ∧
      ∃ p ∈ f.recs, isSel s f now p = true ∧ x.1.bucket = p.2.bucket ∧ x.1.key = p.2.key ∧ vrec x.1 = vrec p.2 ∧ x.1.flag = p.2.flag) :
    x.1.txid ∈ s1.committed ∧ x.1.ds = dsKV ∧ ¬ x.1.size > s.opt.seg ∧
      (x.1.flag = flagSet ∨ x.1.flag = flagDelete) ∧ x.1.ts + x.1.ttl < 2 ^ 64 := by
  obtain ⟨_, h1, h2, h3, p, hp, _, _, _, hv, hfl⟩ := hx
  have hpm := mem_allRecs_of s.files f hf p hp
  simp only [vrec, Prod.mk.injEq] at hv
  exact ⟨h1, h2, h3, hfl ▸ (h.recs _ hpm).2.2, by rw [hv.2.1, hv.2.2.1]; exact h.bounds _ hpm⟩

theorem remove_step (s s1 : State) (now : Nat) (h : MInv s now) (f : File) (hf : f ∈ s.files) (extra : List LogRec)
    (hshape1 : Shape s1) (hpk1 : Packed s1) (hopt : s1.opt = s.opt) (hact : s.activeFid ≤ s1.activeFid)
    (hne : f.fid ≠ s1.activeFid) (hsorted1 : KVRefine.KVSorted s1.kv) (hcom : ∀ id, id ∈ s.committed → id ∈ s1.committed)
    (hfids : ∀ g ∈ s1.files, g.fid ∈ s.files.map (·.fid) ∨ s.activeFid < g.fid)
    (hlog : allRecs s1.files = allRecs s.files ++ extra) (hkv : s1.kv = rawFold s.kv extra)
    (hextra : ∀ x ∈ extra, s.activeFid < x.2.1 ∧ x.1.txid ∈ s1.committed ∧ x.1.ds = dsKV ∧ ¬ x.1.size > s.opt.seg ∧
        ∃ p ∈ f.recs, isSel s f now p = true ∧ x.1.bucket = p.2.bucket ∧ x.1.key = p.2.key ∧ vrec x.1 = vrec p.2 ∧ x.1.flag = p.2.flag)
    (hcover : ∀ p ∈ f.recs, isSel s f now p = true → ∃ x ∈ extra, x.1.bucket = p.2.bucket ∧ x.1.key = p.2.key)
    (hmin : ∀ g ∈ s.files, f.fid ≤ g.fid) (hexm : MarkedLog extra) :
    MInv (dropFile s1 f.fid) now := by
  have h1 := append_minv s s1 now h extra hshape1 hpk1 hopt hact hcom hfids hlog hkv
    (fun x hx => rewritten_ok s now h f hf s1 x (hextra x hx)) hexm
  have hfle := h.shape.fid_le hf
  refine drop_minv s1 now h1 f.fid hne ?_ ?_
  · intro g hg
    rcases hfids g hg with hg | hg
    · obtain ⟨g0, hg0, hg0f⟩ := List.mem_map.mp hg
      exact hg0f ▸ hmin g0 hg0
    · omega
  · -- a record of `f` that an entry still points at was not rewritten, so it was not selected: it is filtered
    intro x hx hxf i hli hpos
    have hxL : x ∈ allRecs s.files := by
      rw [hlog] at hx
      rcases List.mem_append.mp hx with hx | hx
      · exact hx
      · have := (hextra x hx).1; omega
    rw [hkv, look_rawFold] at hli
    cases he : lastOf extra x.1.bucket x.1.key with
    | some y =>
      exfalso
      rw [he] at hli
      have := (hextra y (lastOf_some he).1).1
      have hif : i.fid = y.2.1 := by cases hli; rfl
      have : i.fid = x.2.1 := by have := congrArg Prod.fst hpos; simpa [posOf] using this
      omega
    | none =>
      rw [he] at hli
      have hli' : look s.kv x.1.bucket x.1.key = some i := hli
      obtain ⟨g, hg, hgfid, hgrec⟩ := (mem_allRecs_iff s.files x).mp hxL
      have hgf : g = f := by
        have h1 := fileGet_of_sorted s.files g hg h.packed.fids
        rw [hgfid, hxf, fileGet_of_sorted s.files f hf h.packed.fids] at h1
        exact (Option.some.inj h1).symm
      subst hgf
      cases hfil : isFilter x.1 now with
      | true => rfl
      | false =>
        exfalso
        simp only [posOf, Prod.mk.injEq] at hpos
        obtain ⟨y, hy, hyb, hyk⟩ := hcover _ hgrec (isSel_iff.mpr ⟨hfil, i, hli', hpos.1.trans hxf, hpos.2⟩)
        exact lastOf_none.mp he y hy ⟨hyb, hyk⟩

theorem merge_file_step (s : State) (now : Nat) (h : MInv s now) (f : File) (hf : f ∈ s.files) (tid : Nat)
    (hguard : (f.recs.filter (isSel s f now)).map (·.2) ≠ [] ∨ f.fid ≠ s.activeFid)
    (hmin : ∀ g ∈ s.files, f.fid ≤ g.fid) :
    let recs := (f.recs.filter (isSel s f now)).map (·.2)
    let s2 := dropFile (rewrite s recs tid).1 f.fid
    (rewrite s recs tid).2 = .ok () ∧ MInv s2 now ∧ visKV s2.kv = visKV s.kv ∧
    (∀ id, id ∈ s.committed → id ∈ s2.committed) ∧ s2.opt = s.opt ∧
    s.activeFid ≤ s2.activeFid ∧
    (∀ g ∈ s2.files, (g.fid ∈ s.files.map (·.fid) ∧ g.fid ≠ f.fid) ∨ s.activeFid < g.fid) := by
  intro recs s2
  by_cases hne : recs = []
  · -- nothing to rewrite
    have hrw : rewrite s recs tid = (s, .ok ()) := by unfold rewrite; simp [hne]
    have hs2 : s2 = dropFile s f.fid := by show dropFile (rewrite s recs tid).1 f.fid = _; rw [hrw]
    have hm := remove_step s s now h f hf [] h.shape h.packed rfl (Nat.le_refl _) (hguard.resolve_left (fun c => c hne)) h.sorted
      (fun _ hid => hid) (fun g hg => Or.inl (List.mem_map.mpr ⟨g, hg, rfl⟩)) (by simp) rfl (fun x hx => by cases hx)
      (fun p hp hsel => by
        have : p.2 ∈ recs := List.mem_map.mpr ⟨p, List.mem_filter.mpr ⟨hp, hsel⟩, rfl⟩
        rw [hne] at this; cases this) hmin (fun x hx => by cases hx)
    rw [hs2, hrw]
    exact ⟨rfl, hm, rfl, fun _ hid => hid, rfl, Nat.le_refl _,
      fun g hg => Or.inl ⟨List.mem_map.mpr ⟨g, (mem_dropFile.mp hg).1, rfl⟩, (mem_dropFile.mp hg).2⟩⟩
  · obtain ⟨hout, hsh1, hpk1, hopt1, hact1, hvis1, hsorted1, hcom1, hfids1, extra, hlog1, hkv1, hextra1, hcover1, hmarks1⟩ :=
      rewrite_step s now h f hf tid hne
    have hfle := h.shape.fid_le hf
    have hact1' : s.activeFid < (rewrite s recs tid).1.activeFid := hact1
    have hm := remove_step s (rewrite s recs tid).1 now h f hf extra hsh1 hpk1 hopt1 (Nat.le_of_lt hact1') (by omega)
      hsorted1 hcom1 hfids1 hlog1 hkv1 hextra1 hcover1 hmin hmarks1
    refine ⟨hout, hm, hvis1, hcom1, hopt1, Nat.le_of_lt hact1', fun g hg => ?_⟩
    rcases hfids1 g (mem_dropFile.mp hg).1 with h1 | h1
    · exact Or.inl ⟨h1, (mem_dropFile.mp hg).2⟩
    · exact Or.inr h1

/-! ### the loop over the files -/

theorem go_skip (now : Nat) (s : State) (fids txids : List Nat) (h : ∀ fid ∈ fids, fileGet? s.files fid = none) :
    merge.go now s fids txids = (s, .ok ()) := by
  induction fids with
  | nil => rfl
  | cons fid rest ih =>
    unfold merge.go
    rw [h fid (by simp)]
    exact ih (fun g hg => h g (by simp [hg]))

theorem go_cons (now : Nat) (s : State) (fid : Nat) (rest txids : List Nat) (f : File) (recs : List Rec)
    (hget : fileGet? s.files fid = some f) (hsel : mergeSelect s f now = .ok recs)
    (hrw : (rewrite s recs (txids.headD 0)).2 = .ok ()) :
    merge.go now s (fid :: rest) txids =
      merge.go now (dropFile (rewrite s recs (txids.headD 0)).1 fid) rest (if recs.isEmpty then txids else txids.drop 1) := by
  conv => lhs; unfold merge.go
  simp only [hget, hsel]
  rw [show rewrite s recs (txids.headD 0) = ((rewrite s recs (txids.headD 0)).1, .ok ()) by rw [← hrw]]
  rfl

/-- **the loop of Merge** on a state with the invariant: if it ends with the active file still linked, it
succeeded, kept the invariant, and changed nothing visible in the index -/
theorem go_spec (now : Nat) (fids : List Nat) (s : State) (txids : List Nat) (h : MInv s now)
    (hasc : fids.Pairwise (· < ·))
    (hcov : ∀ g ∈ s.files, g.fid ∈ fids ∨ ∀ x ∈ fids, x < g.fid) (hle : ∀ x ∈ fids, x ≤ s.activeFid) :
    (merge.go now s fids txids).1.activeUnlinked = false →
    (merge.go now s fids txids).2 = .ok () ∧ MInv (merge.go now s fids txids).1 now ∧
    visKV (merge.go now s fids txids).1.kv = visKV s.kv ∧
    (∀ id, id ∈ s.committed → id ∈ (merge.go now s fids txids).1.committed) ∧
    (merge.go now s fids txids).1.opt = s.opt := by
  induction fids generalizing s txids with
  | nil => intro _; exact ⟨rfl, h, rfl, fun _ hid => hid, rfl⟩
  | cons fid rest ih =>
    rw [List.pairwise_cons] at hasc
    cases hget : fileGet? s.files fid with
    | none =>
      have hgo : merge.go now s (fid :: rest) txids = merge.go now s rest txids := by
        conv => lhs; unfold merge.go
        simp only [hget]
      rw [hgo]
      refine ih s txids h hasc.2 (fun g hg => ?_) (fun x hx => hle x (by simp [hx]))
      rcases hcov g hg with h1 | h1
      · rcases List.mem_cons.mp h1 with h2 | h2
        · unfold fileGet? at hget
          exact absurd (by simp [h2]) (List.find?_eq_none.mp hget g hg)
        · exact Or.inl h2
      · exact Or.inr (fun x hx => h1 x (by simp [hx]))
    | some f =>
      obtain ⟨hf, hfid⟩ := fileGet_mem s.files fid f hget
      have hmin : ∀ g ∈ s.files, f.fid ≤ g.fid := by
        intro g hg
        rw [hfid]
        rcases hcov g hg with h1 | h1
        · rcases List.mem_cons.mp h1 with h2 | h2
          · omega
          · have := hasc.1 g.fid h2; omega
        · have := h1 fid (by simp); omega
      by_cases hguard : (f.recs.filter (isSel s f now)).map (·.2) ≠ [] ∨ f.fid ≠ s.activeFid
      · obtain ⟨hout, hm2, hvis2, hcom2, hopt2, hact2, hfiles2⟩ := merge_file_step s now h f hf (txids.headD 0) hguard hmin
        rw [go_cons now s fid rest txids f _ hget (mergeSelect_eq s now h f hf) hout, ← hfid]
        generalize dropFile (rewrite s ((f.recs.filter (isSel s f now)).map (·.2)) (txids.headD 0)).1 f.fid = s2 at *
        have hcov2 : ∀ g ∈ s2.files, g.fid ∈ rest ∨ ∀ x ∈ rest, x < g.fid := by
          intro g hg
          rcases hfiles2 g hg with ⟨h1, h2⟩ | h1
          · obtain ⟨g0, hg0, hg0f⟩ := List.mem_map.mp h1
            rw [← hg0f] at h2 ⊢
            rcases hcov g0 hg0 with h3 | h3
            · rcases List.mem_cons.mp h3 with h4 | h4
              · exact absurd (h4.trans hfid.symm) h2
              · exact Or.inl h4
            · exact Or.inr (fun x hx => h3 x (by simp [hx]))
          · exact Or.inr (fun x hx => by have := hle x (by simp [hx]); omega)
        intro hlinked
        obtain ⟨r1, r2, r3, r4, r5⟩ := ih _ _ hm2 hasc.2 hcov2 (fun x hx => Nat.le_trans (hle x (by simp [hx])) hact2) hlinked
        exact ⟨r1, r2, by rw [r3, hvis2], fun id hid => r4 id (hcom2 id hid), by rw [r5, hopt2]⟩
      · -- the active file, with nothing to rewrite: it is removed while still active, and no later id names a file
        intro hlinked
        exfalso
        have hg1 : (f.recs.filter (isSel s f now)).map (·.2) = [] := Decidable.not_not.mp fun c => hguard (Or.inl c)
        have hg2 : f.fid = s.activeFid := Decidable.not_not.mp fun c => hguard (Or.inr c)
        have hsel := mergeSelect_eq s now h f hf
        rw [hg1] at hsel
        have hrw : rewrite s [] (txids.headD 0) = (s, .ok ()) := by unfold rewrite; simp
        rw [go_cons now s fid rest txids f [] hget hsel (by rw [hrw]), hrw, go_skip] at hlinked
        · simp [dropFile, ← hg2, hfid] at hlinked
        · intro g hg
          unfold fileGet?
          rw [List.find?_eq_none]
          intro x hx
          have := h.shape.fid_le (mem_dropFile.mp hx).1
          have := hasc.1 g hg
          simp; omega

/-- the loop over any prefix of the file list: the state a crash between two files leaves -/
theorem go_take_spec (now : Nat) (s : State) (txids : List Nat) (h : MInv s now) (k : Nat) :
    (merge.go now s ((s.files.map (·.fid)).take k) txids).1.activeUnlinked = false →
    (merge.go now s ((s.files.map (·.fid)).take k) txids).2 = .ok () ∧
    MInv (merge.go now s ((s.files.map (·.fid)).take k) txids).1 now ∧
    visKV (merge.go now s ((s.files.map (·.fid)).take k) txids).1.kv = visKV s.kv ∧
    (∀ id, id ∈ s.committed → id ∈ (merge.go now s ((s.files.map (·.fid)).take k) txids).1.committed) ∧
    (merge.go now s ((s.files.map (·.fid)).take k) txids).1.opt = s.opt := by
  have hsplit := h.packed.fids
  rw [← List.take_append_drop k (s.files.map (·.fid)), List.pairwise_append] at hsplit
  refine go_spec now _ s txids h hsplit.1 (fun g hg => ?_) fun x hx => ?_
  · have hgm : g.fid ∈ s.files.map (·.fid) := List.mem_map.mpr ⟨g, hg, rfl⟩
    rw [← List.take_append_drop k (s.files.map (·.fid))] at hgm
    rcases List.mem_append.mp hgm with h1 | h1
    · exact Or.inl h1
    · exact Or.inr fun x hx => hsplit.2.2 x hx g.fid h1
  · obtain ⟨g, hg, rfl⟩ := List.mem_map.mp (List.mem_of_mem_take hx)
    exact h.shape.fid_le hg

/-- **Merge leaves the visible index alone.** On a state with the invariant, `Merge` — any clock value, any
ids for its rewrite transactions — either ends with the active file removed from the directory (finding
D-MERGE-ACTIVE: nothing in any file was live), or fails because there are fewer than two files (changing
nothing), or succeeds, keeps the invariant, and leaves every bucket's entries with the same keys in the same
order, the same value, timestamp, TTL and flag each — tombstones and expired entries included — and every
entry's transaction committed. -/
theorem merge_spec (s : State) (now : Nat) (txids : List Nat) (h : MInv s now) :
    (s.files.length < 2 → merge s now txids = (s, .err)) ∧
    (¬ s.files.length < 2 → (merge s now txids).1.activeUnlinked = false →
      (merge s now txids).2 = .ok () ∧ MInv (merge s now txids).1 now ∧
      visKV (merge s now txids).1.kv = visKV s.kv ∧
      (∀ id, id ∈ s.committed → id ∈ (merge s now txids).1.committed) ∧
      (merge s now txids).1.opt = s.opt) := by
  constructor
  · intro hlt; unfold merge; simp [hlt]
  · intro hge
    have hm : merge s now txids = merge.go now s ((s.files.map (·.fid)).take s.files.length) txids := by
      rw [List.take_of_length_le (by simp)]; unfold merge; simp [hge]
    rw [hm]
    exact go_take_spec now s txids h _

end NutsProofs.MergeKV
