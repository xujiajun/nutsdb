/-
  NutsProofs.Lemmas.SkiplistDel — `deleteNode` keeps every span a distance, for every level layout
  (`delete_inv`), takes exactly the tower at the given position out, and shrinks `level` to a bound of the
  remaining heights.

  Removal is insertion read backwards: the old list is the new one with the tower put back, so the two gap
  lemmas of SkiplistIns (`gap_behind_insertIdx`, `gap_behind_clear`), applied to the list without the tower,
  say what every span has to become.
-/
import NutsProofs.Lemmas.SkiplistIns
namespace NutsProofs.SkipL
open Nuts Nuts.Model Nuts.Model.Skiplist
open Nuts.Model.ZSetA (Node nlt)

/-! ### lists -/

theorem map_eraseIdx {α β} (f : α → β) (l : List α) (k : Nat) : (l.eraseIdx k).map f = (l.map f).eraseIdx k := by
  rw [List.eraseIdx_eq_take_drop_succ, List.eraseIdx_eq_take_drop_succ]
  simp [List.map_take, List.map_drop]

theorem insertIdx_eraseIdx {α} (l : List α) (x : α) : ∀ k, l[k]? = some x → (l.eraseIdx k).insertIdx k x = l := by
  induction l with
  | nil => intro k h; simp at h
  | cons a as ih =>
    intro k h
    cases k with
    | zero => simp at h; subst h; rfl
    | succ k => rw [List.eraseIdx_cons_succ, List.insertIdx_succ_cons, ih k (by simpa using h)]

theorem drop_eraseIdx_ge {α} (l : List α) : ∀ k n, k ≤ n → (l.eraseIdx k).drop n = l.drop (n + 1) := by
  induction l with
  | nil => intro k n _; simp
  | cons a as ih =>
    intro k n h
    cases k with
    | zero => rfl
    | succ k =>
      obtain ⟨n', rfl⟩ := Nat.exists_eq_add_one.mpr (Nat.lt_of_lt_of_le (Nat.succ_pos k) h)
      rw [List.eraseIdx_cons_succ, List.drop_succ_cons, List.drop_succ_cons, ih k n' (by omega)]

theorem take_eraseIdx_self {α} (l : List α) : ∀ k, (l.eraseIdx k).take k = l.take k := by
  induction l with
  | nil => intro k; rfl
  | cons a as ih =>
    intro k
    cases k with
    | zero => rfl
    | succ k => rw [List.eraseIdx_cons_succ, List.take_succ_cons, List.take_succ_cons, ih]

theorem head_tail_eraseIdx {α} {l : List α} {k : Nat} (hk : 1 ≤ k) :
    (l.eraseIdx k).head? = l.head? ∧ ∀ y ∈ (l.eraseIdx k).tail, y ∈ l.tail := by
  obtain ⟨k', rfl⟩ := Nat.exists_eq_add_one.mpr hk
  cases l with
  | nil => exact ⟨rfl, fun y hy => hy⟩
  | cons a as => rw [List.eraseIdx_cons_succ]; exact ⟨rfl, fun y hy => List.mem_of_mem_eraseIdx hy⟩

theorem heights_eraseIdx (all : List Tower) (k : Nat) : heights (all.eraseIdx k) = (heights all).eraseIdx k :=
  map_eraseIdx _ _ _

theorem heightOf_eraseIdx (all : List Tower) (k p : Nat) :
    heightOf (all.eraseIdx k) p = if p < k then heightOf all p else heightOf all (p + 1) := by
  simp only [heightOf, List.getElem?_eraseIdx]
  split <;> rfl

theorem spanOf_eraseIdx (all : List Tower) (k p i : Nat) :
    spanOf (all.eraseIdx k) p i = if p < k then spanOf all p i else spanOf all (p + 1) i := by
  simp only [spanOf, List.getElem?_eraseIdx]
  split <;> rfl

/-! ### the tower goes out -/

/-- `update[i].span += x.span - 1` with `update[i]` at `p`, `x` at `xp` -/
theorem span_over {p xp g : Nat} (h : p < xp) : ((xp - p : Nat) : Int) + ((g : Int) - 1) = ((xp - (p + 1) + g : Nat) : Int) := by
  rw [Int.natCast_add, Int.natCast_sub h, Int.natCast_sub (Nat.le_of_lt h)]
  omega

/-- `deleteNode` behind its `update[]`: spans up to level `L` are maintained -/
def cutOut (a : List Tower) (xp L : Nat) (u : Nat → Nat) : List Tower :=
  (mapSpans a fun p i sp =>
      if i < L ∧ p = u i then (if fwd a p i = some xp then sp + (spanOf a xp i - 1) else sp - 1) else sp).eraseIdx xp

theorem heights_cutOut (a : List Tower) (xp L : Nat) (u : Nat → Nat) :
    heights (cutOut a xp L u) = (heights a).eraseIdx xp := by
  rw [cutOut, heights_eraseIdx, heights_mapSpans]

theorem spansOK_cutOut {a : List Tower} {L xp : Nat} (hok : SpansOK L a) (hxl : xp < a.length) {u : Nat → Nat}
    (hU : ∀ i, i < L → IsUpd a xp i (u i) ((u i : Nat) : Int)) : SpansOK L (cutOut a xp L u) := by
  have hold := spansOK_iff.mp hok
  -- `b`: the list without the tower; `a` is `b` with the tower `X` put back at `xp`
  obtain ⟨X, hX⟩ : ∃ X, a[xp]? = some X := ⟨_, List.getElem?_eq_getElem hxl⟩
  have hXh : heightOf a xp = X.spans.length := heightOf_eq hX
  generalize hb : a.eraseIdx xp = b
  have hab : b.insertIdx xp X = a := by rw [← hb]; exact insertIdx_eraseIdx a X xp hX
  have hbl : xp ≤ b.length := by rw [← hb, List.length_eraseIdx, if_pos hxl]; omega
  have hbh : ∀ q, heightOf b q = if q < xp then heightOf a q else heightOf a (q + 1) := by
    intro q; rw [← hb]; exact heightOf_eraseIdx a xp q
  have hbd : ∀ n, xp ≤ n → b.drop n = a.drop (n + 1) := by
    intro n hn; rw [← hb]; exact drop_eraseIdx_ge a xp n hn
  rw [spansOK_iff]
  intro p i hi hl
  have hg : gap i ((cutOut a xp L u).drop (p + 1)) = gap i (b.drop (p + 1)) :=
    gap_congr (by rw [heights_drop, heights_drop, heights_cutOut, ← hb, heights_eraseIdx])
  rw [hg]
  unfold cutOut at hi ⊢
  rw [heightOf_eraseIdx] at hi
  rw [spanOf_eraseIdx]
  obtain ⟨_, huc, huh, hclear⟩ := hU i hl
  by_cases hpc : p < xp
  · rw [if_pos hpc, heightOf_mapSpans] at hi
    rw [if_pos hpc, spanOf_mapSpans _ hi, hold p i hi hl]
    have hUb : IsUpd b xp i (u i) ((u i : Nat) : Int) :=
      ⟨rfl, huc, by rw [hbh, if_pos huc]; exact huh, fun q h1 h2 => by rw [hbh, if_pos h2]; exact hclear q h1 h2⟩
    have hins := gap_behind_insertIdx X hUb hpc (by rw [hbh, if_pos hpc]; exact hi) hbl
    rw [hab] at hins
    rw [hins]
    by_cases hpu : p = u i
    · subst hpu
      have hclr := gap_behind_clear hpc hbl hUb.2.2.2
      rw [hbd xp (Nat.le_refl _)] at hclr
      rw [if_pos ⟨hl, rfl⟩, if_pos rfl]
      by_cases hXi : i < X.spans.length
      · rw [if_pos hXi, if_pos (fwd_eq_some_iff.mpr ⟨hpc, hxl, by rw [hXh]; exact hXi, hclear⟩),
          hold xp i (by rw [hXh]; exact hXi) hl, hclr, span_over hpc]
      · rw [if_neg hXi, if_neg (fun h => hXi (by rw [← hXh]; exact (fwd_eq_some_iff.mp h).2.2.1)),
          Int.natCast_add_one, Int.add_sub_cancel]
    · rw [if_neg (fun h => hpu h.2), if_neg hpu]
  · rw [if_neg hpc, heightOf_mapSpans] at hi
    rw [if_neg hpc, spanOf_mapSpans _ hi, if_neg (fun (h : i < L ∧ p + 1 = u i) => hpc (Nat.lt_of_succ_lt (show p + 1 < xp from h.2.symm ▸ huc))),
      hbd (p + 1) (Nat.le_succ_of_le (Nat.le_of_not_lt hpc))]
    exact hold (p + 1) i hi hl

/-! ### `deleteNode` keeps the invariant -/

/-- `level` after the shrinking loop still bounds the heights -/
theorem shrink_spec (all : List Tower) : ∀ L, 1 ≤ L → (∀ t ∈ all.drop 1, t.spans.length ≤ L) →
    1 ≤ shrinkLevel all L ∧ shrinkLevel all L ≤ L ∧ ∀ t ∈ all.drop 1, t.spans.length ≤ shrinkLevel all L := by
  intro L
  induction L with
  | zero => intro h; omega
  | succ l ih =>
    intro _ hb
    simp only [shrinkLevel]
    by_cases hc : l ≥ 1 ∧ fwd all 0 l = none
    · rw [if_pos hc]
      have hb' : ∀ t ∈ all.drop 1, t.spans.length ≤ l := by
        have := hc.2
        unfold fwd at this
        rw [Option.map_eq_none_iff, nextAt_none] at this
        exact this
      obtain ⟨r1, r2, r3⟩ := ih hc.1 hb'
      exact ⟨r1, by omega, r3⟩
    · rw [if_neg hc]
      exact ⟨by omega, Nat.le_refl _, hb⟩

theorem shrinkLevel_le (all : List Tower) : ∀ L, shrinkLevel all L ≤ L
  | 0 => Nat.le_refl _
  | l + 1 => by
    rw [shrinkLevel]
    by_cases hc : l ≥ 1 ∧ fwd all 0 l = none
    · rw [if_pos hc]; exact Nat.le_succ_of_le (shrinkLevel_le all l)
    · rw [if_neg hc]; exact Nat.le_refl _

theorem deleteNode_eq (s : SL) (xp : Nat) (upd : List Nat) :
    deleteNode s xp upd =
      { level := shrinkLevel (cutOut s.all xp s.level (upd.getD · 0)) s.level, length := s.length - 1,
        all := cutOut s.all xp s.level (upd.getD · 0) } := rfl

theorem deleteNode_height_below (s : SL) (xp : Nat) (upd : List Nat) (q : Nat) (hq : q < xp) :
    heightOf (deleteNode s xp upd).all q = heightOf s.all q := by
  rw [deleteNode_eq, cutOut, heightOf_eraseIdx, if_pos hq, heightOf_mapSpans]

theorem delete_inv {s : SL} (hinv : Inv s) (xp : Nat) (hx1 : 1 ≤ xp) (hxl : xp < s.all.length) (upd : List Nat)
    (hU : ∀ i, i < s.level → IsUpd s.all xp i (upd.getD i 0) ((upd.getD i 0 : Nat) : Int)) :
    Inv (deleteNode s xp upd) ∧
    (deleteNode s xp upd).all.map (·.node) = (s.all.map (·.node)).eraseIdx xp := by
  obtain ⟨hhd, hlv, hlen, hhts, _⟩ := (inv_iff s).mp hinv
  obtain ⟨hh1, hh2⟩ := head_tail_eraseIdx (l := heights s.all) hx1
  rw [deleteNode_eq]
  generalize hr : cutOut s.all xp s.level (upd.getD · 0) = r
  have hrh : heights r = (heights s.all).eraseIdx xp := by rw [← hr, heights_cutOut]
  have htail : ∀ h ∈ (heights r).tail, 1 ≤ h ∧ h ≤ s.level := fun h hh => hhts h (hh2 h (hrh ▸ hh))
  obtain ⟨k1, k2, k3⟩ := shrink_spec r s.level hlv.1 (fun t ht =>
    (htail t.spans.length (by rw [heights, ← List.map_tail, ← List.drop_one]; exact List.mem_map_of_mem ht)).2)
  refine ⟨(inv_iff _).mpr ⟨by rw [hrh, hh1]; exact hhd, ⟨k1, Nat.le_trans k2 hlv.2⟩, ?_, ?_, ?_⟩, ?_⟩
  · have : r.length = s.all.length - 1 := by
      rw [← hr, cutOut, List.length_eraseIdx, mapSpans_length, if_pos hxl]
    simp only [this, hlen]
    rw [Int.natCast_sub (Nat.le_sub_one_of_lt (Nat.lt_of_le_of_lt hx1 hxl))]
    rfl
  · intro h hh
    refine ⟨(htail h hh).1, ?_⟩
    rw [heights, ← List.map_tail, List.mem_map] at hh
    obtain ⟨t, ht, rfl⟩ := hh
    exact k3 t (by rw [List.drop_one]; exact ht)
  · exact spansOK_lower (hr ▸ spansOK_cutOut hinv.spans hxl hU) k2
  · rw [← hr, cutOut, map_eraseIdx, mapSpans_nodes]

end NutsProofs.SkipL
