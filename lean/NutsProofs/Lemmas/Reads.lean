/-
  NutsProofs.Lemmas.Reads — the key/value reads in normal form. A missing bucket answers like an empty one, and
  the emptiness tests in front of `nonEmptyOrErr` are redundant, so every scan is
  `nonEmptyOrErr (wrapper s selection limit now)` for a selection of the bucket's entries; and `wrapper`, when
  every fetch succeeds, is a filter (`dead`) followed by a cut (`limit`).
-/
import Nuts.Model.DB
namespace NutsProofs.Reads
open Nuts Nuts.Model Nuts.Model.DB

def bucketOf (s : State) (b : Bytes) : Assoc Idx := (bucketIdx s b).getD []

theorem bucketOf_some {s : State} {b : Bytes} {m : Assoc Idx} (h : bucketIdx s b = some m) : bucketOf s b = m := by
  simp [bucketOf, h]

theorem forall_bucketOf {s : State} {b : Bytes} {P : Bytes × Idx → Prop} (h : ∀ m, bucketIdx s b = some m → ∀ p ∈ m, P p) :
    ∀ p ∈ bucketOf s b, P p := by
  unfold bucketOf
  cases hb : bucketIdx s b with
  | none => nofun
  | some m => exact h m hb

theorem nonEmptyOrErr_ok {α} (l : List α) : nonEmptyOrErr (.ok l) = if l = [] then .err else .ok l := by
  cases l <;> rfl

theorem nonEmptyOrErr_wrapper_nil (s : State) (lim : Int) (now : Nat) : nonEmptyOrErr (wrapper s [] lim now) = .err := rfl

theorem get_eq (s : State) (b k : Bytes) (now : Nat) :
    DB.get s b k now = match aget? (bucketOf s b) k with
      | none => .err
      | some i => if !s.committed.contains i.r.txid then .err else if dead i.r now then .err else fetch s i := by
  unfold DB.get bucketOf
  cases bucketIdx s b <;> rfl

theorem getAll_eq (s : State) (b : Bytes) (now : Nat) :
    getAll s b now = nonEmptyOrErr (wrapper s ((bucketOf s b).map (·.2)) (-1) now) := by
  unfold getAll bucketOf
  cases bucketIdx s b with
  | none => rfl
  | some m => cases m <;> rfl

theorem rangeScan_eq (s : State) (b st en : Bytes) (now : Nat) :
    rangeScan s b st en now = if bcmp st en == .gt then .err
      else nonEmptyOrErr (wrapper s (((bucketOf s b).filter fun p => ble st p.1 && ble p.1 en).map (·.2)) (-1) now) := by
  unfold rangeScan bucketOf
  cases bucketIdx s b with
  | none => simp [nonEmptyOrErr_wrapper_nil]
  | some m =>
    simp only [Option.getD_some]
    split
    · rfl
    · cases (m.filter fun p => ble st p.1 && ble p.1 en) <;> rfl

theorem prefixScan_eq (s : State) (b pre : Bytes) (off lim : Int) (now : Nat) (mt : Bytes → Bool) :
    prefixScan s b pre off lim now mt = nonEmptyOrErr (wrapper s (prefixWalk (bucketOf s b) pre off lim mt).1 lim now) := by
  unfold prefixScan bucketOf
  cases bucketIdx s b with
  | none => rfl
  | some m =>
    simp only [Option.getD_some]
    cases (prefixWalk m pre off lim mt).1 <;> rfl

/-- what a limit keeps of a list when `n` results are there already (`-1`: everything) -/
def cut {α} (lim : Int) (n : Nat) (l : List α) : List α := if lim = -1 then l else l.take (lim.toNat - n)

theorem cut_all {α} (n : Nat) (l : List α) : cut (-1) n l = l := rfl

theorem cut_of_length_le {α} (lim : Int) (l : List α) (h : lim = -1 ∨ l.length ≤ lim.toNat) : cut lim 0 l = l := by
  unfold cut
  split
  · rfl
  · rename_i hl; exact List.take_of_length_le (h.resolve_left hl)

theorem cut_map {α β} (f : α → β) (lim : Int) (n : Nat) (l : List α) : cut lim n (l.map f) = (cut lim n l).map f := by
  unfold cut; split <;> simp [List.map_take]

theorem mem_of_mem_cut {α} {lim : Int} {n : Nat} {l : List α} {a : α} (h : a ∈ cut lim n l) : a ∈ l := by
  unfold cut at h; split at h
  · exact h
  · exact List.mem_of_mem_take h

theorem wrapper_eq (s : State) (g : Idx → Option Rec) (now : Nat) (lim : Int) (recs : List Idx)
    (hf : ∀ i ∈ recs, fetch s i = .ok (g i)) (acc : List (Option Rec)) :
    wrapper s recs lim now acc = .ok (acc ++ (cut lim acc.length (recs.filter fun i => !dead i.r now)).map g) := by
  induction recs generalizing acc with
  | nil => simp [wrapper, cut]
  | cons i rest ih =>
    have ih := ih (fun j hj => hf j (List.mem_cons_of_mem _ hj))
    rw [wrapper]
    cases hd : dead i.r now with
    | true => rw [if_pos rfl, List.filter_cons_of_neg (by simp [hd])]; exact ih acc
    | false =>
      have e : (acc ++ [g i]).length = acc.length + 1 := by rw [List.length_append]; rfl
      rw [if_neg Bool.false_ne_true, List.filter_cons_of_pos (by simp [hd])]
      unfold cut
      by_cases hl : lim = -1
      · rw [if_pos (Or.inr hl), hf i (List.mem_cons_self ..)]
        show wrapper s rest lim now (acc ++ [g i]) = _
        rw [ih, cut, if_pos hl, if_pos hl, List.map_cons, List.append_assoc]
        rfl
      · rw [if_neg hl]
        by_cases hlt : (acc.length : Int) < lim
        · -- room for one more
          have hN : acc.length < lim.toNat := Int.lt_toNat.mpr hlt
          rw [if_pos (Or.inl ⟨Int.lt_of_le_of_lt (Int.natCast_nonneg _) hlt, hlt⟩), hf i (List.mem_cons_self ..)]
          show wrapper s rest lim now (acc ++ [g i]) = _
          rw [ih, cut, if_neg hl, e, show lim.toNat - acc.length = (lim.toNat - (acc.length + 1)) + 1 by
              rw [Nat.sub_add_eq, Nat.sub_add_cancel (Nat.sub_pos_of_lt hN)],
            List.take_succ_cons, List.map_cons, List.append_assoc]
          rfl
        · rw [if_neg (fun h => h.elim (fun h => hlt h.2) hl), ih, cut, if_neg hl,
            Nat.sub_eq_zero_of_le (Int.toNat_le.mpr (Int.not_lt.mp hlt)), List.take_zero, List.take_zero]

theorem wrapper_eq_nil (s : State) (g : Idx → Option Rec) (now : Nat) (lim : Int) (recs : List Idx)
    (hf : ∀ i ∈ recs, fetch s i = .ok (g i)) :
    wrapper s recs lim now = .ok ((cut lim 0 (recs.filter fun i => !dead i.r now)).map g) :=
  wrapper_eq s g now lim recs hf []

/-- `v`: a view of the results; `g`: an entry-wise map of the index -/
theorem wrapper_congr {β} (v : Option Rec → β) (s s' : State) (g : Idx → Idx) (lim : Int) (now : Nat) (recs : List Idx)
    (hd : ∀ i, dead (g i).r now = dead i.r now) (hf : ∀ i ∈ recs, (fetch s' (g i)).map v = (fetch s i).map v)
    (acc acc' : List (Option Rec)) (hacc : acc'.map v = acc.map v) :
    (wrapper s' (recs.map g) lim now acc').map (List.map v) = (wrapper s recs lim now acc).map (List.map v) := by
  induction recs generalizing acc acc' with
  | nil => exact congrArg Outcome.ok hacc
  | cons i rest ih =>
    have hf0 := hf i (List.mem_cons_self ..)
    have ih := ih (fun j hj => hf j (List.mem_cons_of_mem _ hj))
    have hlen : acc'.length = acc.length := by simpa using congrArg List.length hacc
    rw [List.map_cons, wrapper, wrapper, hd, hlen]
    split
    · exact ih acc acc' hacc
    · split
      · -- both fetches succeed with records that look alike, or both fail alike
        cases hf1 : fetch s' (g i) <;> cases hf2 : fetch s i <;> rw [hf1, hf2] at hf0 <;> simp only [Outcome.map] at hf0
        case ok.ok e e' =>
          exact ih _ _ (by rw [List.map_append, List.map_append, hacc, List.map_singleton, List.map_singleton, Outcome.ok.inj hf0])
        all_goals first | rfl | cases hf0
      · exact ih acc acc' hacc

theorem fetch_mode0 (s : State) (hm : s.opt.mode = 0) (i : Idx) : fetch s i = .ok (some i.r) := by
  simp [fetch, hm]

end NutsProofs.Reads
