/-
  NutsProofs.Lemmas.SkiplistIns — `insertNode` keeps every span a distance, for every level layout and every
  drawn level (`insert_inv`), and puts the node at the cut.

  The invariant is read pointwise (`spansOK_iff`, from Skiplist.lean: the span stored at position `p`, level `i` is
  the gap behind `p`), the gap depends on the heights only (`gap_congr`, from SkiplistInv.lean), and one lemma here
  says what inserting a tower does to a gap (`gap_insertIdx`). `insertNode` is then two steps: new header levels get the span `length`
  (`spansOK_raise`), and the spans of the towers `lastAt · c` are adjusted around the new tower
  (`spansOK_spliceIn`).
-/
import NutsProofs.Lemmas.SkiplistInv
namespace NutsProofs.SkipL
open Nuts Nuts.Model Nuts.Model.Skiplist
open Nuts.Model.ZSetA (Node nlt)

/-! ### lists -/

theorem insertIdx_eq_take_drop {α} (l : List α) (c : Nat) (x : α) (h : c ≤ l.length) :
    l.insertIdx c x = l.take c ++ x :: l.drop c := by
  induction l generalizing c with
  | nil => cases c with
    | zero => rfl
    | succ c => simp at h
  | cons a as ih =>
    cases c with
    | zero => rfl
    | succ c =>
      simp only [List.length_cons] at h
      simp [List.insertIdx_succ_cons, ih c (by omega)]

theorem map_insertIdx {α β} (f : α → β) (l : List α) (c : Nat) (x : α) :
    (l.insertIdx c x).map f = (l.map f).insertIdx c (f x) := by
  induction l generalizing c with
  | nil => cases c <;> simp [List.insertIdx_zero, List.insertIdx_of_length_lt]
  | cons a as ih => cases c <;> simp [List.insertIdx_zero, List.insertIdx_succ_cons, ih]

theorem drop_insertIdx_le {α} (l : List α) (x : α) : ∀ (n k : Nat), n ≤ k → n ≤ l.length →
    (l.insertIdx k x).drop n = (l.drop n).insertIdx (k - n) x := by
  induction l with
  | nil =>
    intro n k _ hn
    have : n = 0 := Nat.le_zero.mp hn
    subst this; rfl
  | cons a as ih =>
    intro n k h hn
    cases n with
    | zero => rfl
    | succ n =>
      obtain ⟨k', rfl⟩ := Nat.exists_eq_add_one.mpr (Nat.le_trans (Nat.succ_pos n) h)
      rw [List.insertIdx_succ_cons, List.drop_succ_cons, List.drop_succ_cons,
        ih n k' (Nat.le_of_succ_le_succ h) (Nat.le_of_succ_le_succ hn), Nat.add_sub_add_right]

theorem drop_insertIdx_gt {α} (l : List α) (x : α) : ∀ (n k : Nat), k ≤ n →
    (l.insertIdx k x).drop (n + 1) = l.drop n := by
  induction l with
  | nil => intro n k _; cases k <;> simp
  | cons a as ih =>
    intro n k h
    cases k with
    | zero => rfl
    | succ k =>
      obtain ⟨n', rfl⟩ := Nat.exists_eq_add_one.mpr (Nat.le_trans (Nat.succ_pos k) h)
      rw [List.insertIdx_succ_cons, List.drop_succ_cons, List.drop_succ_cons, ih n' k (Nat.le_of_succ_le_succ h)]

theorem head_tail_insertIdx {α} {l : List α} {c : Nat} (x : α) (hc1 : 1 ≤ c) (hcl : c ≤ l.length) :
    (l.insertIdx c x).head? = l.head? ∧ ∀ y ∈ (l.insertIdx c x).tail, y = x ∨ y ∈ l.tail := by
  cases l with
  | nil => exact absurd (Nat.le_trans hc1 hcl) (Nat.not_succ_le_zero 0)
  | cons a as =>
    obtain ⟨c', rfl⟩ := Nat.exists_eq_add_one.mpr hc1
    rw [List.insertIdx_succ_cons]
    exact ⟨rfl, fun y hy => (List.mem_insertIdx (Nat.le_of_succ_le_succ hcl)).mp hy⟩

/-! ### towers by position -/

theorem heights_insertIdx (all : List Tower) (c : Nat) (t : Tower) :
    heights (all.insertIdx c t) = (heights all).insertIdx c t.spans.length := map_insertIdx _ _ _ _

theorem mapSpans_get (all : List Tower) (f : Nat → Nat → Int → Int) (p : Nat) :
    (mapSpans all f)[p]? = (all[p]?).map fun t => { t with spans := t.spans.mapIdx fun i sp => f p i sp } := by
  simp [mapSpans, List.getElem?_mapIdx]

theorem mapSpans_length (all : List Tower) (f : Nat → Nat → Int → Int) : (mapSpans all f).length = all.length := by
  simp [mapSpans]

theorem heights_mapSpans (all : List Tower) (f : Nat → Nat → Int → Int) : heights (mapSpans all f) = heights all := by
  apply List.ext_getElem?
  intro p
  simp only [heights, List.getElem?_map, mapSpans_get]
  cases all[p]? <;> simp

theorem mapSpans_nodes (all : List Tower) (f : Nat → Nat → Int → Int) :
    (mapSpans all f).map (·.node) = all.map (·.node) := by
  apply List.ext_getElem?
  intro p
  simp only [List.getElem?_map, mapSpans_get]
  cases all[p]? <;> simp

theorem heightOf_mapSpans (all : List Tower) (f : Nat → Nat → Int → Int) (p : Nat) :
    heightOf (mapSpans all f) p = heightOf all p := by
  rw [heightOf_heights, heightOf_heights, heights_mapSpans]

theorem spanOf_mapSpans {all : List Tower} (f : Nat → Nat → Int → Int) {p i : Nat} (h : i < heightOf all p) :
    spanOf (mapSpans all f) p i = f p i (spanOf all p i) := by
  unfold heightOf at h
  unfold spanOf
  rw [mapSpans_get]
  cases hg : all[p]? with
  | none => simp [hg] at h
  | some t =>
    have ht : i < t.spans.length := by simpa [hg] using h
    simp [List.getD_eq_getElem?_getD, List.getElem?_mapIdx, List.getElem?_eq_getElem ht]

theorem getElem?_insertIdx_le {α} {l : List α} {c : Nat} (x : α) (hc : c ≤ l.length) (p : Nat) :
    (l.insertIdx c x)[p]? = if p < c then l[p]? else if p = c then some x else l[p - 1]? := by
  rw [List.getElem?_insertIdx]
  by_cases h1 : p < c
  · rw [if_pos h1, if_pos h1]
  · rw [if_neg h1, if_neg h1]
    by_cases h2 : p = c
    · rw [if_pos h2, if_pos h2, if_pos (h2 ▸ hc)]
    · rw [if_neg h2, if_neg h2]

theorem heightOf_insertIdx {all : List Tower} {c : Nat} (t : Tower) (hc : c ≤ all.length) (p : Nat) :
    heightOf (all.insertIdx c t) p =
      if p < c then heightOf all p else if p = c then t.spans.length else heightOf all (p - 1) := by
  rw [heightOf, getElem?_insertIdx_le t hc, apply_ite fun o : Option Tower => (o.map (·.spans.length)).getD 0,
    apply_ite fun o : Option Tower => (o.map (·.spans.length)).getD 0]
  rfl

theorem spanOf_insertIdx {all : List Tower} {c : Nat} (t : Tower) (hc : c ≤ all.length) (p i : Nat) :
    spanOf (all.insertIdx c t) p i =
      if p < c then spanOf all p i else if p = c then t.spans.getD i 0 else spanOf all (p - 1) i := by
  rw [spanOf, getElem?_insertIdx_le t hc, apply_ite fun o : Option Tower => (o.map (·.spans.getD i 0)).getD 0,
    apply_ite fun o : Option Tower => (o.map (·.spans.getD i 0)).getD 0]
  rfl

/-! ### the gap behind a position -/

theorem gap_drop_mapSpans (all : List Tower) (f : Nat → Nat → Int → Int) (i k : Nat) :
    gap i ((mapSpans all f).drop k) = gap i (all.drop k) :=
  gap_congr (by rw [heights_drop, heights_drop, heights_mapSpans])

theorem gap_cons_hit {i : Nat} {t : Tower} {rest : List Tower} (h : i < t.spans.length) : gap i (t :: rest) = 1 := by
  simp [gap, nextAt, h]

theorem gap_cons_miss {i : Nat} {t : Tower} {rest : List Tower} (h : ¬ i < t.spans.length) : gap i (t :: rest) = gap i rest + 1 := by
  simp only [gap, nextAt, h, if_false, List.length_cons]
  cases nextAt i rest <;> simp

theorem gap_of_clear {i : Nat} : ∀ (k : Nat) (L : List Tower), k ≤ L.length → nextAt i (L.take k) = none →
    gap i L = k + gap i (L.drop k) := by
  intro k
  induction k with
  | zero => intro L _ _; simp
  | succ k ih =>
    intro L hk h
    cases L with
    | nil => simp at hk
    | cons t L' =>
      rw [List.take_succ_cons, nextAt_cons_none] at h
      rw [gap_cons_miss h.1, List.drop_succ_cons, ih L' (by simpa using hk) h.2]
      omega

theorem gap_insertIdx (i : Nat) (x : Tower) : ∀ (k : Nat) (L : List Tower), k ≤ L.length →
    gap i (L.insertIdx k x) =
      if nextAt i (L.take k) = none then (if i < x.spans.length then k + 1 else gap i L + 1) else gap i L := by
  intro k
  induction k with
  | zero =>
    intro L _
    rw [List.insertIdx_zero, List.take_zero, if_pos (show nextAt i [] = none from rfl)]
    by_cases hx : i < x.spans.length
    · rw [if_pos hx, gap_cons_hit hx]
    · rw [if_neg hx, gap_cons_miss hx]
  | succ k ih =>
    intro L hk
    cases L with
    | nil => simp at hk
    | cons t L' =>
      rw [List.insertIdx_succ_cons, List.take_succ_cons]
      by_cases ht : i < t.spans.length
      · rw [gap_cons_hit ht, gap_cons_hit ht, if_neg (by rw [nextAt_cons_none]; exact fun h => h.1 ht)]
      · rw [gap_cons_miss ht, gap_cons_miss ht, ih L' (by simpa using hk)]
        simp only [nextAt_cons_none, ht, not_false_eq_true, true_and]
        by_cases hn : nextAt i (L'.take k) = none
        · rw [if_pos hn, if_pos hn]
          by_cases hx : i < x.spans.length
          · rw [if_pos hx, if_pos hx]
          · rw [if_neg hx, if_neg hx]
        · rw [if_neg hn, if_neg hn]

theorem nextAt_take_none {i : Nat} : ∀ (k : Nat) (L : List Tower),
    nextAt i (L.take k) = none ↔ ∀ j, j < k → heightOf L j ≤ i
  | 0, L => ⟨fun _ j hj => absurd hj (Nat.not_lt_zero _), fun _ => rfl⟩
  | k + 1, [] => ⟨fun _ j _ => Nat.zero_le _, fun _ => rfl⟩
  | k + 1, t :: L => by
    rw [List.take_succ_cons, nextAt_cons_none, nextAt_take_none k L]
    exact ⟨fun ⟨h1, h2⟩ j hj => by cases j with
        | zero => exact Nat.le_of_not_lt h1
        | succ j => exact h2 j (Nat.lt_of_succ_lt_succ hj),
      fun h => ⟨Nat.not_lt_of_le (h 0 (Nat.succ_pos _)), fun j hj => h (j + 1) (Nat.succ_lt_succ hj)⟩⟩

theorem nextAt_between {all : List Tower} {c p i : Nat} :
    nextAt i ((all.drop (p + 1)).take (c - (p + 1))) = none ↔ ∀ q, p < q → q < c → heightOf all q ≤ i := by
  rw [nextAt_take_none]
  simp only [heightOf_drop]
  exact ⟨fun h q hq hqc => by
      have := h (q - (p + 1)) (Nat.sub_lt_sub_right hq hqc)
      rwa [Nat.add_sub_of_le hq] at this,
    fun h j hj => h _ (Nat.lt_of_lt_of_le (Nat.lt_succ_self p) (Nat.le_add_right _ _)) (Nat.add_lt_of_lt_sub' hj)⟩

theorem gap_behind_insertIdx {all : List Tower} {c p i u : Nat} {r : Int} (x : Tower) (hU : IsUpd all c i u r)
    (hpc : p < c) (hh : i < heightOf all p) (hcl : c ≤ all.length) :
    gap i ((all.insertIdx c x).drop (p + 1)) =
      if p = u then (if i < x.spans.length then c - p else gap i (all.drop (p + 1)) + 1) else gap i (all.drop (p + 1)) := by
  rw [drop_insertIdx_le all x (p + 1) c hpc (Nat.le_trans hpc hcl),
    gap_insertIdx i x _ _ (by rw [List.length_drop]; exact Nat.sub_le_sub_right hcl _)]
  simp only [nextAt_between, ← hU.eq_iff_clear hpc hh]
  by_cases e : p = u
  · rw [if_pos e, if_pos e]
    by_cases hx : i < x.spans.length
    · rw [if_pos hx, if_pos hx, Nat.sub_add_eq, Nat.sub_add_cancel (Nat.sub_pos_of_lt hpc)]
    · rw [if_neg hx, if_neg hx]
  · rw [if_neg e, if_neg e]

theorem gap_behind_clear {all : List Tower} {c p i : Nat} (hpc : p < c) (hcl : c ≤ all.length)
    (h : ∀ q, p < q → q < c → heightOf all q ≤ i) :
    gap i (all.drop (p + 1)) = (c - (p + 1)) + gap i (all.drop c) := by
  rw [gap_of_clear (c - (p + 1)) (all.drop (p + 1)) (by rw [List.length_drop]; exact Nat.sub_le_sub_right hcl _)
    (nextAt_between.mpr h), List.drop_drop, Nat.add_sub_of_le hpc]

/-- `if level > ss.level`: the header's span at a new level is `ss.length`, the gap to the end -/
theorem spansOK_raise {s : SL} (h : Inv s) (lvl : Nat) :
    SpansOK (max s.level lvl)
      (mapSpans s.all fun p i sp => if p = 0 ∧ s.level ≤ i ∧ i < lvl then s.length else sp) := by
  rw [spansOK_iff]
  intro p i hi hl
  rw [heightOf_mapSpans] at hi
  rw [spanOf_mapSpans _ hi, gap_drop_mapSpans]
  by_cases hil : i < s.level
  · rw [if_neg fun h' => Nat.not_le_of_lt hil h'.2.1]; exact h.span hi hil
  · -- a level the skiplist did not have: only the header reaches it, and no tower behind it does
    have hli : s.level ≤ i := Nat.le_of_not_lt hil
    have hp : p = 0 := Nat.eq_zero_of_not_pos fun hp => hil (Nat.lt_of_lt_of_le hi (h.heightLe hp))
    subst hp
    have : nextAt i (s.all.drop (0 + 1)) = none := by
      rw [nextAt_none, List.drop_one]
      exact fun t ht => Nat.le_trans (h.hts t ht).2 hli
    rw [if_pos ⟨rfl, hli, by omega⟩, h.len, gap, this, Option.getD_none, List.length_drop]

/-! ### the new tower goes in -/

/-- `update[i].span = rank[0] - rank[i] + 1` with `rank[0] = c - 1`, `rank[i] = p`: the distance from `p` to `c` -/
theorem span_to_new {p c : Nat} (h : p < c) : ((c - 1 : Nat) : Int) - (p : Int) + 1 = ((c - p : Nat) : Int) := by
  rw [Int.natCast_sub (Nat.le_of_lt h), Int.natCast_sub (Nat.le_trans (Nat.succ_le_succ (Nat.zero_le p)) h)]
  omega

/-- `x.span = update[i].span - (rank[0] - rank[i])`: what is left of the gap of `u` behind the cut `c` -/
theorem span_of_new {u c g : Nat} (h : u < c) :
    ((c - (u + 1) + g : Nat) : Int) - (((c - 1 : Nat) : Int) - (u : Int)) = (g : Int) := by
  rw [Int.natCast_add, Int.natCast_sub h, Int.natCast_sub (Nat.le_trans (Nat.succ_le_succ (Nat.zero_le u)) h)]
  omega

/-- `insertNode` behind its descent: `update[i]` = `lastAt a i c` with rank `rank[i]` = its position,
`rank[0] = c - 1`; spans up to level `L` are maintained -/
def spliceIn (a : List Tower) (c : Nat) (n : Node) (lvl L : Nat) : List Tower :=
  (mapSpans a fun p i sp =>
      if p = lastAt a i c then
        (if i < lvl then (((c - 1 : Nat) : Int) - (lastAt a i c : Int)) + 1 else if i < L then sp + 1 else sp)
      else sp).insertIdx c
    ⟨n, (List.range lvl).map fun i => spanOf a (lastAt a i c) i - (((c - 1 : Nat) : Int) - (lastAt a i c : Int))⟩

theorem heights_spliceIn (a : List Tower) (c : Nat) (n : Node) (lvl L : Nat) :
    heights (spliceIn a c n lvl L) = (heights a).insertIdx c lvl := by
  simp [spliceIn, heights_insertIdx, heights_mapSpans]

theorem length_spliceIn {a : List Tower} {c : Nat} (hcl : c ≤ a.length) (n : Node) (lvl L : Nat) :
    (spliceIn a c n lvl L).length = a.length + 1 := by
  simp [spliceIn, List.length_insertIdx, mapSpans_length, hcl]

theorem nodes_spliceIn (a : List Tower) (c : Nat) (n : Node) (lvl L : Nat) :
    (spliceIn a c n lvl L).map (·.node) = (a.map (·.node)).insertIdx c n := by
  simp [spliceIn, map_insertIdx, mapSpans_nodes]

theorem spansOK_spliceIn {a : List Tower} {L c : Nat} (hok : SpansOK L a) (h0 : L ≤ heightOf a 0) (hc1 : 1 ≤ c)
    (hcl : c ≤ a.length) (n : Node) (lvl : Nat) : SpansOK L (spliceIn a c n lvl L) := by
  have hU : ∀ i, i < L → IsUpd a c i (lastAt a i c) (lastAt a i c) := fun i hi =>
    (SkipL.lastAt_isUpd (x := 0) (by omega) (by omega)).1
  have hold := spansOK_iff.mp hok
  rw [spansOK_iff]
  intro p i hi hl
  have hg : ∀ k, gap i ((spliceIn a c n lvl L).drop k) = gap i ((a.insertIdx c ⟨n, List.replicate lvl 0⟩).drop k) := by
    intro k
    apply gap_congr
    rw [heights_drop, heights_drop, heights_spliceIn, heights_insertIdx]
    simp
  rw [hg]
  unfold spliceIn at hi ⊢
  rw [heightOf_insertIdx _ (by rw [mapSpans_length]; exact hcl)] at hi
  rw [spanOf_insertIdx _ (by rw [mapSpans_length]; exact hcl)]
  obtain ⟨_, huc, huh, hclear⟩ := hU i hl
  by_cases hpc : p < c
  · -- below the cut: only `lastAt a i c` sees the new tower
    rw [if_pos hpc, heightOf_mapSpans] at hi
    rw [if_pos hpc, spanOf_mapSpans _ hi, gap_behind_insertIdx _ (hU i hl) hpc hi hcl, hold p i hi hl]
    simp only [List.length_replicate]
    by_cases e : p = lastAt a i c
    · rw [if_pos e, if_pos e, ← e]
      by_cases hil : i < lvl
      · rw [if_pos hil, if_pos hil, span_to_new hpc]
      · rw [if_neg hil, if_neg hil, if_pos hl]; rfl
    · rw [if_neg e, if_neg e]
  · rw [if_neg hpc] at hi ⊢
    by_cases hpe : p = c
    · -- the new tower: what is left of the gap of `lastAt a i c` behind the cut
      subst hpe
      rw [if_pos rfl] at hi ⊢
      simp only [List.length_map, List.length_range] at hi
      rw [drop_insertIdx_gt _ _ _ _ (Nat.le_refl _)]
      simp only [List.getD_eq_getElem?_getD, List.getElem?_map, List.getElem?_range hi, Option.map_some, Option.getD_some]
      rw [hold _ i huh hl, gap_behind_clear huc hcl hclear, span_of_new huc]
    · -- behind the cut nothing changes
      rw [if_neg hpe] at hi ⊢
      have hcp : c ≤ p := Nat.le_of_not_lt hpc
      obtain ⟨p', rfl⟩ := Nat.exists_eq_add_one.mpr (Nat.le_trans hc1 hcp)
      rw [heightOf_mapSpans] at hi
      rw [Nat.add_sub_cancel] at hi ⊢
      have hcp' : c ≤ p' := Nat.le_of_lt_succ (Nat.lt_of_le_of_ne hcp (Ne.symm hpe))
      rw [spanOf_mapSpans _ hi, if_neg (fun (e : p' = lastAt a i c) => Nat.not_le_of_lt huc (e ▸ hcp')),
        drop_insertIdx_gt _ _ _ _ hcp]
      exact hold p' i hi hl

/-! ### `insertNode` keeps the invariant -/

theorem getD_replicate_zero (k j : Nat) : (List.replicate k ((0, 0) : Nat × Int)).getD j (0, 0) = (0, 0) := by
  simp only [List.getD_eq_getElem?_getD, List.getElem?_replicate]
  split <;> rfl

/-- `update[i]` and `rank[i]` of `insertNode`, levels above `ss.level` included -/
theorem ins_upd {s : SL} (hinv : Inv s) (n : Node) (lvl : Nat) {c : Nat} (hc1 : 1 ≤ c) (hcl : c ≤ s.all.length)
    (hst : Steers s.all (fun _ f => nlt f n) c) (i : Nat) :
    (descend s.all (fun _ f => nlt f n) s.level 0 0 ++ List.replicate (lvl - s.level) (0, 0)).getD i (0, 0) =
      (lastAt s.all i c, (lastAt s.all i c : Int)) := by
  rw [descend_header hinv hc1 hcl hst, List.getD_eq_getElem?_getD]
  by_cases hi : i < s.level
  · rw [List.getElem?_append_left (by simpa using hi)]
    simp [hi]
  · rw [List.getElem?_append_right (by simpa using hi), ← List.getD_eq_getElem?_getD, getD_replicate_zero,
      hinv.lastAt_high (by omega)]
    rfl

theorem insertNode_eq {s : SL} (hinv : Inv s) (n : Node) (lvl : Nat) {c : Nat} (hc1 : 1 ≤ c) (hcl : c ≤ s.all.length)
    (hst : Steers s.all (fun _ f => nlt f n) c) :
    insertNode s n lvl =
      { level := max s.level lvl, length := s.length + 1,
        all := spliceIn (mapSpans s.all fun p i sp => if p = 0 ∧ s.level ≤ i ∧ i < lvl then s.length else sp)
          c n lvl (max s.level lvl) } := by
  simp only [insertNode, ins_upd hinv n lvl hc1 hcl hst, spliceIn, lastAt_congr (heights_mapSpans _ _),
    hinv.lastAt_zero hcl, Nat.sub_add_cancel hc1]

theorem insert_inv {s : SL} (hinv : Inv s) (n : Node) (lvl c : Nat) (hl1 : 1 ≤ lvl) (hl2 : lvl ≤ maxLevel)
    (hc1 : 1 ≤ c) (hcl : c ≤ s.all.length) (hst : Steers s.all (fun _ f => nlt f n) c) :
    Inv (insertNode s n lvl) ∧
    (insertNode s n lvl).all.map (·.node) = (s.all.map (·.node)).take c ++ n :: (s.all.map (·.node)).drop c := by
  obtain ⟨hhd, hlv, hlen, hhts, _⟩ := (inv_iff s).mp hinv
  obtain ⟨hh1, hh2⟩ := head_tail_insertIdx (l := heights s.all) lvl hc1 (by rw [heights, List.length_map]; exact hcl)
  rw [insertNode_eq hinv n lvl hc1 hcl hst]
  refine ⟨(inv_iff _).mpr ⟨?_, ⟨Nat.le_trans hlv.1 (Nat.le_max_left _ _), Nat.max_le.mpr ⟨hlv.2, hl2⟩⟩, ?_, ?_, ?_⟩, ?_⟩
  · rw [heights_spliceIn, heights_mapSpans, hh1]; exact hhd
  · simp only
    rw [length_spliceIn (by rw [mapSpans_length]; exact hcl), mapSpans_length, hlen, Nat.add_sub_cancel,
      ← Int.natCast_add_one, Nat.sub_add_cancel (Nat.le_trans hc1 hcl)]
  · rw [heights_spliceIn, heights_mapSpans]
    intro h hh
    rcases hh2 h hh with rfl | hh
    · exact ⟨hl1, Nat.le_max_right _ _⟩
    · exact ⟨(hhts h hh).1, Nat.le_trans (hhts h hh).2 (Nat.le_max_left _ _)⟩
  · exact spansOK_spliceIn (spansOK_raise hinv lvl) (by rw [heightOf_mapSpans, hinv.height0]; exact Nat.max_le.mpr ⟨hlv.2, hl2⟩)
      hc1 (by rw [mapSpans_length]; exact hcl) n lvl
  · rw [nodes_spliceIn, mapSpans_nodes, insertIdx_eq_take_drop _ _ _ (by simpa using hcl)]

end NutsProofs.SkipL
