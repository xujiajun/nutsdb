/-
  NutsProofs.Lemmas.Files — the directory of data files, on the shapes the write path produces (a new file is
  appended behind all others, a record goes into the last file).
-/
import Nuts.Model.DB
namespace NutsProofs
open Nuts Nuts.Model.DB

theorem forall_mem_snoc {α} {P : α → Prop} {l : List α} {a : α} : (∀ x ∈ l ++ [a], P x) ↔ (∀ x ∈ l, P x) ∧ P a := by
  simp only [List.forall_mem_append, List.forall_mem_singleton]

theorem pairwise_snoc {α} {R : α → α → Prop} {l : List α} {a : α} : (l ++ [a]).Pairwise R ↔ l.Pairwise R ∧ ∀ x ∈ l, R x a := by
  simp [List.pairwise_append]

theorem size_pos (r : Rec) : 0 < r.size := by unfold Rec.size headerSize; omega

theorem allRecs_append (a b : List File) : allRecs (a ++ b) = allRecs a ++ allRecs b := by
  simp [allRecs]

theorem mem_allRecs_iff (fs : List File) (x : Rec × Nat × Nat) :
    x ∈ allRecs fs ↔ ∃ f ∈ fs, f.fid = x.2.1 ∧ (x.2.2, x.1) ∈ f.recs := by
  simp only [allRecs, List.mem_flatMap, List.mem_map]
  constructor
  · rintro ⟨f, hf, y, hy, rfl⟩; exact ⟨f, hf, rfl, hy⟩
  · rintro ⟨f, hf, hfid, hy⟩; exact ⟨f, hf, _, hy, by rw [hfid]⟩

theorem MergeKV.mem_allRecs_of (fs : List File) (f : File) (hf : f ∈ fs) (p : Nat × Rec) (hp : p ∈ f.recs) :
    (p.2, f.fid, p.1) ∈ allRecs fs :=
  (mem_allRecs_iff fs _).mpr ⟨f, hf, rfl, hp⟩

theorem foldl_max_mem (l : List Nat) (a : Nat) : l.foldl max a = a ∨ l.foldl max a ∈ l := by
  induction l generalizing a with
  | nil => exact Or.inl rfl
  | cons x rest ih =>
    simp only [List.foldl_cons]
    rcases ih (max a x) with h | h
    · rw [h]
      by_cases hx : a ≤ x
      · right; simp [Nat.max_eq_right hx]
      · left; exact Nat.max_eq_left (by omega)
    · right; exact List.mem_cons_of_mem _ h

theorem foldl_max_ge (l : List Nat) (a : Nat) : a ≤ l.foldl max a ∧ ∀ x ∈ l, x ≤ l.foldl max a := by
  induction l generalizing a with
  | nil => exact ⟨Nat.le_refl _, fun x hx => by cases hx⟩
  | cons y rest ih =>
    simp only [List.foldl_cons]
    obtain ⟨h1, h2⟩ := ih (max a y)
    refine ⟨by have := Nat.le_max_left a y; omega, ?_⟩
    intro x hx
    rcases List.mem_cons.mp hx with rfl | hx
    · have := Nat.le_max_right a x; omega
    · exact h2 x hx

theorem maxFid_snoc (pre : List File) (f : File) (h : ∀ g ∈ pre, g.fid < f.fid) :
    ((pre ++ [f]).map (·.fid)).foldl max 0 = f.fid := by
  simp only [List.map_append, List.map_cons, List.map_nil, List.foldl_append, List.foldl_cons, List.foldl_nil]
  apply Nat.max_eq_right
  rcases foldl_max_mem (pre.map (·.fid)) 0 with h0 | hm
  · omega
  · obtain ⟨g, hg, hgf⟩ := List.mem_map.mp hm
    have := h g hg; omega

theorem fileEnsure_of_mem (fs : List File) (f : File) (h : f ∈ fs) : fileEnsure fs f.fid = fs := by
  have : fs.any (·.fid == f.fid) = true := List.any_eq_true.mpr ⟨f, h, by simp⟩
  simp [fileEnsure, this]

/-- `Open` creates no file in a directory that has one -/
theorem fileEnsure_max (fs : List File) (hne : fs ≠ []) : fileEnsure fs ((fs.map (·.fid)).foldl max 0) = fs := by
  rcases foldl_max_mem (fs.map (·.fid)) 0 with h | h
  · -- the maximum is 0: every id is 0
    cases fs with
    | nil => exact absurd rfl hne
    | cons f rest =>
      have := (foldl_max_ge ((f :: rest).map (·.fid)) 0).2 f.fid (by simp)
      rw [h] at this ⊢
      rw [show 0 = f.fid by omega]
      exact fileEnsure_of_mem _ f (by simp)
  · obtain ⟨f, hf, hfid⟩ := List.mem_map.mp h
    rw [← hfid]; exact fileEnsure_of_mem fs f hf

theorem fileEnsure_new (fs : List File) (nf : Nat) (h : ∀ g ∈ fs, g.fid < nf) :
    fileEnsure fs nf = fs ++ [{ fid := nf, recs := [] }] := by
  unfold fileEnsure
  have hany : fs.any (·.fid == nf) = false := by
    rw [List.any_eq_false]
    intro g hg
    have := h g hg
    simp; omega
  simp only [hany, Bool.false_eq_true, if_false]
  have hp : fs.partition (·.fid < nf) = (fs, []) := by
    rw [List.partition_eq_filter_filter]
    congr 1
    · rw [List.filter_eq_self]; intro g hg; simpa using h g hg
    · rw [List.filter_eq_nil_iff]; intro g hg; simpa using h g hg
  rw [hp]
  simp

theorem mem_fileEnsure_of_mem (fs : List File) (fid : Nat) (f : File) (h : f ∈ fs) : f ∈ fileEnsure fs fid := by
  unfold fileEnsure
  split
  · exact h
  · simp only [List.partition_eq_filter_filter, List.mem_append, List.mem_filter, List.mem_singleton]
    by_cases hlt : f.fid < fid
    · left; left; exact ⟨h, by simpa using hlt⟩
    · right; exact ⟨h, by simpa using hlt⟩

theorem mem_fileEnsure (fs : List File) (fid : Nat) (f : File) (h : f ∈ fileEnsure fs fid) : f ∈ fs ∨ f.recs = [] := by
  unfold fileEnsure at h
  split at h
  · left; exact h
  · simp only [List.partition_eq_filter_filter, List.mem_append, List.mem_filter, List.mem_singleton] at h
    rcases h with (⟨h, _⟩ | h) | ⟨h, _⟩
    · left; exact h
    · right; rw [h]
    · left; exact h

theorem fileAppend_last (pre : List File) (f : File) (off : Nat) (r : Rec) (hpre : ∀ g ∈ pre, g.fid < f.fid) :
    fileAppend (pre ++ [f]) f.fid off r = pre ++ [{ f with recs := f.recs ++ [(off, r)] }] := by
  unfold fileAppend
  have hany : (pre ++ [f]).any (·.fid == f.fid) = true := by simp
  simp only [hany, if_true, List.map_append, List.map_cons, List.map_nil, beq_self_eq_true]
  congr 1
  conv => rhs; rw [← List.map_id pre]
  apply List.map_congr_left
  intro g hg
  have := hpre g hg
  have hne : (g.fid == f.fid) = false := by simp; omega
  simp [hne]

theorem fileEnd_last {f : File} {R : Nat × Rec → Nat × Rec → Prop} (h : f.recs.Pairwise R) {p : Nat × Rec}
    (hp : p ∈ f.recs) : ∃ q, fileEnd f = q.1 + q.2.size ∧ (p = q ∨ R p q) := by
  unfold fileEnd
  cases hl : f.recs.getLast? with
  | none => rw [List.getLast?_eq_none_iff.mp hl] at hp; cases hp
  | some q =>
    obtain ⟨ys, hys⟩ := List.getLast?_eq_some_iff.mp hl
    obtain ⟨o, r⟩ := q
    rw [hys] at h hp
    refine ⟨(o, r), rfl, ?_⟩
    rcases List.mem_append.mp hp with e | e
    · exact Or.inr ((pairwise_snoc.mp h).2 p e)
    · exact Or.inl (List.mem_singleton.mp e)

end NutsProofs
