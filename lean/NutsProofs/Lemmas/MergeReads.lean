/-
  NutsProofs.Lemmas.MergeReads — two key+value-mode states whose indexes show the same visible content (same
  keys in the same order, same value, timestamp, TTL, flag under each) and whose entries are all committed
  answer every key/value read alike, up to what a read can show of a record: both read as their common image
  under the map that strips an entry to its visible content (`Reopen.Remap`).
-/
import NutsProofs.Lemmas.MergeKV
namespace NutsProofs.MergeKV
open Nuts Nuts.Model Nuts.Model.DB NutsProofs.Reopen

/-- what a read shows of its results -/
def showO (o : Outcome (Option Rec)) : Outcome (Option (Bytes × Nat × Nat × Nat)) := o.map (Option.map vrec)
def showL (o : Outcome (List (Option Rec))) : Outcome (List (Option (Bytes × Nat × Nat × Nat))) := o.map (List.map (Option.map vrec))

/-- an entry stripped to its visible content -/
def bareOf (v : Bytes × Nat × Nat × Nat) : Idx :=
  ⟨{ bucket := [], key := [], value := v.1, ts := v.2.1, ttl := v.2.2.1, flag := v.2.2.2, ds := 0, txid := 0 }, 0, 0⟩
def bare (i : Idx) : Idx := bareOf (vrec i.r)

/-- a key+value-mode state with the stripped index, the one transaction id of its entries committed -/
def bareState (s : State) : State := { opt := { mode := 0 }, kv := mapKV bare s.kv, committed := [0] }

theorem remap_bare (s : State) (hm : s.opt.mode = 0) (hc : AllB s.kv fun _ _ i => i.r.txid ∈ s.committed) :
    Remap bare vrec s (bareState s) := by
  refine ⟨rfl, fun _ _ => rfl, fun b m p hb hp => ?_, fun b m p _ _ => ?_⟩
  · have : s.committed.contains p.2.r.txid = true := by simpa using hc b m p hb hp
    rw [this]; rfl
  · unfold DB.fetch; simp only [hm, bareState, beq_self_eq_true, if_true]; rfl

theorem bareState_of_vis (s s' : State) (hv : visKV s'.kv = visKV s.kv) : bareState s' = bareState s := by
  have : ∀ kv : Assoc (Assoc Idx), mapKV bare kv = (visKV kv).map fun p => (p.1, p.2.map fun q => (q.1, bareOf q.2)) := by
    intro kv
    simp only [mapKV, mapBucket, visKV, visBucket, List.map_map]
    refine List.map_congr_left fun p _ => ?_
    simp only [Function.comp, List.map_map]
    rfl
  unfold bareState
  rw [this, this, hv]

/-- **same visible index, same reads** (key+value mode, every entry committed) -/
theorem reads_of_visKV (s s' : State) (hm : s.opt.mode = 0) (hm' : s'.opt.mode = 0) (hv : visKV s'.kv = visKV s.kv)
    (hc : AllB s.kv fun _ _ i => i.r.txid ∈ s.committed) (hc' : AllB s'.kv fun _ _ i => i.r.txid ∈ s'.committed) :
    (∀ b k now, showO (DB.get s' b k now) = showO (DB.get s b k now)) ∧
    (∀ b now, showL (getAll s' b now) = showL (getAll s b now)) ∧
    (∀ b st en now, showL (rangeScan s' b st en now) = showL (rangeScan s b st en now)) ∧
    (∀ b pre off lim now mt, showL (prefixScan s' b pre off lim now mt) = showL (prefixScan s b pre off lim now mt)) := by
  have h := remap_bare s hm hc
  have h' := remap_bare s' hm' hc'
  rw [bareState_of_vis s s' hv] at h'
  exact ⟨fun b k now => (get_remap h' b k now).symm.trans (get_remap h b k now),
    fun b now => (getAll_remap h' b now).symm.trans (getAll_remap h b now),
    fun b st en now => (rangeScan_remap h' b st en now).symm.trans (rangeScan_remap h b st en now),
    fun b pre off lim now mt => (prefixScan_remap h' b pre off lim now mt).symm.trans (prefixScan_remap h b pre off lim now mt)⟩

end NutsProofs.MergeKV
