/-
  NutsProofs.Lemmas.MergeCrash — the crash points inside the handling of one file by Merge (key/value data):
  while the rewrite transaction is being written (any number of its records short of the last), and after it has
  committed but before the old file is removed. In the first case the unmarked records are invisible to
  recovery; in the second the state already satisfies the Merge invariant (both copies of a rewritten record are
  in the files, the newer one is the entry's).
-/
import NutsProofs.Lemmas.MergeReopen
namespace NutsProofs.MergeKV
open Nuts Nuts.Model Nuts.Model.DB NutsProofs.Reopen NutsProofs.KVRefine

/-- the invariant after the rewrite transaction of a file, before the file is removed -/
theorem rewrite_minv (s : State) (now : Nat) (h : MInv s now) (f : File) (hf : f ∈ s.files) (tid : Nat)
    (hne : (f.recs.filter (isSel s f now)).map (·.2) ≠ []) :
    MInv (rewrite s ((f.recs.filter (isSel s f now)).map (·.2)) tid).1 now := by
  obtain ⟨_, hshape1, hpk1, hopt, hact, _, _, hcom, hfids, extra, hlog, hkv, hextra, _, hexm⟩ :=
    rewrite_step s now h f hf tid hne
  exact append_minv s _ now h extra hshape1 hpk1 hopt (Nat.le_of_lt hact) hcom hfids hlog hkv
    (fun x hx => rewritten_ok s now h f hf _ x (hextra x hx)) hexm

/-- **crash after the rewrite transaction committed, before the old file is removed** -/
theorem crash_after_rewrite (s : State) (now : Nat) (h : MInv s now) (hm : s.opt.mode = 0) (f : File) (hf : f ∈ s.files)
    (tid : Nat) (hne : (f.recs.filter (isSel s f now)).map (·.2) ≠ [])
    (opt : Opts) (hmo : opt.mode = 0) (t : Nat) (hle : now ≤ t) (ht : t < 2 ^ 64) (b : Bytes) :
    let s1 := (rewrite s ((f.recs.filter (isSel s f now)).map (·.2)) tid).1
    let s' := (openDB opt s1.files).1
    (openDB opt s1.files).2 = .ok () ∧
    (∀ k, (DB.get s' b k t).map (Option.map (·.value)) = (DB.get s b k t).map (Option.map (·.value))) ∧
    ((getAll s' b t).map pairsOf = (getAll s b t).map pairsOf) ∧
    (∀ st en, (rangeScan s' b st en t).map pairsOf = (rangeScan s b st en t).map pairsOf) ∧
    (∀ pre mt, (prefixScan s' b pre 0 (-1) t mt).map pairsOf = (prefixScan s b pre 0 (-1) t mt).map pairsOf) := by
  obtain ⟨_, _, _, hopt, _, hvis, _⟩ := rewrite_step s now h f hf tid hne
  exact reads_after_moves_reopen s _ now h (rewrite_minv s now h f hf tid hne) hm hopt hvis opt hmo t hle ht b

/-- **crash while the rewrite transaction is being written**: `j` of its records — any number short of the
last — are in the new file; its id is fresh -/
theorem crash_in_rewrite (s : State) (now : Nat) (h : MInv s now) (hm : s.opt.mode = 0) (recs : List Rec)
    (hkv : ∀ r ∈ recs, r.ds = dsKV) (tid : Nat) (hfresh : ∀ x ∈ allRecs s.files, x.1.txid ≠ tid) (j : Nat)
    (opt : Opts) (hmo : opt.mode = 0) (t : Nat) (hle : now ≤ t) (ht : t < 2 ^ 64) (b : Bytes) :
    let sc := crashAfter (rotate s) (retag tid recs) j
    let s' := (openDB opt sc.files).1
    (openDB opt sc.files).2 = .ok () ∧
    (∀ k, (DB.get s' b k t).map (Option.map (·.value)) = (DB.get s b k t).map (Option.map (·.value))) ∧
    ((getAll s' b t).map pairsOf = (getAll s b t).map pairsOf) ∧
    (∀ st en, (rangeScan s' b st en t).map pairsOf = (rangeScan s b st en t).map pairsOf) ∧
    (∀ pre mt, (prefixScan s' b pre 0 (-1) t mt).map pairsOf = (prefixScan s b pre 0 (-1) t mt).map pairsOf) := by
  intro sc s'
  have hrot := LogCommit.rotate_appended s h.shape
  obtain ⟨extra, hex, hE⟩ := LogCommit.writeUnmarked_log ((retag tid recs).take j) (rotate s) hrot.shape
  have hA := hrot.trans hE
  have hE : ∀ x ∈ extra, x.1.txid = tid ∧ x.1.status = 0 := by
    intro x hx
    obtain ⟨q, _, hq⟩ := List.mem_map.mp (List.mem_of_mem_take (hex ▸ List.mem_map_of_mem hx))
    exact hq ▸ ⟨rfl, rfl⟩
  exact reopen_suffix_reads s now h hm opt hmo sc.files extra hA.shape.files_ne hA.shape.untorn hA.log
    (fun x hx => (hE x hx).2) (fun x hx y hy => (hE x hx).1 ▸ hfresh y hy) t hle ht b

end NutsProofs.MergeKV
