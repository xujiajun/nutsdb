/-
  NutsProofs.Lemmas.KVReads — what the key/value reads return, in the terms of the specification (`Nuts.Spec.DB`:
  an ordered map with TTL). `absKV` abstracts an index (drop the tombstones, keep value / timestamp / TTL).
  `Presents s A` is the refinement relation: the index of `s` abstracts to `A`, is sorted, holds API records of
  committed transactions, and every entry can be fetched (from RAM or through its hint: the one place where the
  index mode matters). `Presents.reads`: then every read of `s` is the spec's read of `A`. The way there: each scan
  is a selection of the bucket followed by the wrapper (`Lemmas/Reads`); what the wrapper shows of a selection is the
  live pairs of the selection's abstraction (`scan_pairs`); and selecting by key commutes with both (`scan_keys`).
  The namespace is `NutsProofs.KVRefine`, shared with KVRefine.lean.
-/
import Nuts.Spec.DB
import NutsProofs.Lemmas.LogIndex
import NutsProofs.Lemmas.Reads
import NutsProofs.Lemmas.PrefixRefine
namespace NutsProofs.KVRefine
open Nuts Nuts.Model Nuts.Model.DB NutsProofs.Reopen NutsProofs.Reads
open Nuts.Spec.DB (SKV SpecDB live)

/-! ### the abstraction -/

def isSet (p : Bytes × Idx) : Bool := p.2.r.flag == flagSet
def skvOf (i : Idx) : SKV := ⟨i.r.value, i.r.ts, i.r.ttl⟩
/-- drop the tombstones, keep value / timestamp / TTL -/
def absBucket (m : Assoc Idx) : Assoc SKV := (m.filter isSet).map fun p => (p.1, skvOf p.2)
def absKV (kv : Assoc (Assoc Idx)) : Assoc (Assoc SKV) := kv.map fun p => (p.1, absBucket p.2)

theorem aget_absKV (kv : Assoc (Assoc Idx)) (b : Bytes) : (aget? (absKV kv) b).getD [] = absBucket ((aget? kv b).getD []) := by
  unfold absKV; rw [aget_map absBucket]; cases aget? kv b <;> rfl

/-- the live pairs of the abstraction, bucket level -/
def liveBucket (m : Assoc SKV) (now : Nat) : List (Bytes × Bytes) := (m.filter fun p => live now p.2).map fun p => (p.1, p.2.value)

/-! ### expiry: the regenerated kernel against the spec's `live` -/

/-- `IsExpired` (uint64 arithmetic as compiled) is the negation of the spec's `live`, when the expiry time
`timestamp + ttl` and the clock fit 64 bits -/
theorem isExpired_eq_not_live (v : Bytes) (ttl ts now : Nat) (h1 : ts + ttl < 2 ^ 64) (h2 : now < 2 ^ 64) :
    isExpired ttl ts now = !(live now ⟨v, ts, ttl⟩) := by
  have hT : (ttl : Int) + ts < 18446744073709551616 := by omega
  have hN : (now : Int) < 18446744073709551616 := by omega
  have hc : ((ttl : Int) + ts > now) ↔ now < ts + ttl := by omega
  unfold isExpired NutsGen.K.isExpired.run live wrapU64
  rw [Int.emod_eq_of_lt (Int.natCast_nonneg ttl) (Int.lt_of_le_of_lt (Int.le_add_of_nonneg_right (Int.natCast_nonneg ts)) hT),
    Int.emod_eq_of_lt (Int.add_nonneg (Int.natCast_nonneg ttl) (Int.natCast_nonneg ts)) hT,
    Int.emod_eq_of_lt (Int.natCast_nonneg now) hN]
  by_cases hz : ttl = 0
  · subst hz; rfl
  · rw [if_pos (Int.natCast_pos.mpr (Nat.pos_of_ne_zero hz)), if_neg (Int.natCast_ne_zero.mpr hz)]
    by_cases hlt : now < ts + ttl
    · rw [if_pos (hc.mpr hlt)]; simp [hlt]
    · rw [if_neg (mt hc.mp hlt)]; simp [hz, hlt]

/-- the records of an index carry flag Set or Delete, times that fit 64 bits, and the key they are filed under -/
def IdxOk (m : Assoc Idx) : Prop :=
  ∀ p ∈ m, (p.2.r.flag = flagSet ∨ p.2.r.flag = flagDelete) ∧ p.2.r.ts + p.2.r.ttl < 2 ^ 64 ∧ p.2.r.key = p.1

theorem IdxOk.filter {m : Assoc Idx} (h : IdxOk m) (q : Bytes × Idx → Bool) : IdxOk (m.filter q) :=
  fun p hp => h p (List.mem_filter.mp hp).1

theorem dead_iff (i : Idx) (now : Nat) (hf : i.r.flag = flagSet ∨ i.r.flag = flagDelete) (hb : i.r.ts + i.r.ttl < 2 ^ 64)
    (hn : now < 2 ^ 64) : dead i.r now = !(i.r.flag == flagSet && live now (skvOf i)) := by
  unfold dead skvOf
  rw [isExpired_eq_not_live i.r.value i.r.ttl i.r.ts now hb hn]
  rcases hf with hf | hf <;> simp [hf, flagSet, flagDelete]

theorem liveBucket_abs (m : Assoc Idx) (now : Nat) (hok : IdxOk m) (hn : now < 2 ^ 64) :
    liveBucket (absBucket m) now = (m.filter fun p => !dead p.2.r now).map fun p => (p.1, p.2.r.value) := by
  unfold liveBucket absBucket
  rw [List.filter_map, List.map_map, List.filter_filter]
  congr 1
  apply List.filter_congr
  intro p hp
  obtain ⟨hfl, hbd, _⟩ := hok p hp
  rw [dead_iff p.2 now hfl hbd hn, Bool.not_not, Bool.and_comm]
  rfl

theorem live_filter_keys (m : Assoc Idx) (now : Nat) (p : Bytes → Bool) :
    liveBucket (absBucket (m.filter fun x => p x.1)) now = (liveBucket (absBucket m) now).filter fun x => p x.1 := by
  simp only [liveBucket, absBucket, List.filter_map, List.filter_filter, List.map_map]
  congr 2
  funext x
  simp only [Function.comp_apply]
  ac_rfl

/-! ### fetching: both RAM index modes at once -/

/-- every entry of `m` can be fetched — from RAM in key+value mode, through its hint in key-only mode — and the
record that comes back shows the entry's key and cached value -/
def Shows (s : State) (m : Assoc Idx) : Prop :=
  ∀ p ∈ m, ∃ r, fetch s p.2 = .ok (some r) ∧ r.key = p.1 ∧ r.value = p.2.r.value

theorem Shows.of_mode0 {s : State} (hm : s.opt.mode = 0) {m : Assoc Idx} (hok : IdxOk m) : Shows s m :=
  fun p hp => ⟨p.2.r, fetch_mode0 s hm p.2, (hok p hp).2.2, rfl⟩

theorem Shows.subset {s : State} {m m' : Assoc Idx} (h : Shows s m) (hs : ∀ p ∈ m', p ∈ m) : Shows s m' :=
  fun p hp => h p (hs p hp)

theorem Shows.filter {s : State} {m : Assoc Idx} (h : Shows s m) (q : Bytes × Idx → Bool) : Shows s (m.filter q) :=
  h.subset fun _ hp => (List.mem_filter.mp hp).1

/-- what `fetch` yields when it succeeds -/
def fetched (s : State) (i : Idx) : Option Rec := match fetch s i with | .ok e => e | _ => none

/-- what a scan shows of its result: the (key, value) pairs, in order -/
def pairsOf (l : List (Option Rec)) : List (Bytes × Bytes) := l.filterMap fun o => o.map fun r => (r.key, r.value)

theorem pairsOf_nil_iff (l : List Idx) : pairsOf (l.map fun i => some i.r) = [] ↔ l = [] := by
  cases l <;> simp [pairsOf]

theorem pairsOf_fetched (s : State) (l : Assoc Idx) (h : Shows s l) :
    pairsOf ((l.map (·.2)).map (fetched s)) = l.map fun p => (p.1, p.2.r.value) := by
  induction l with
  | nil => rfl
  | cons p rest ih =>
    obtain ⟨r, hr, hk, hv⟩ := h p (by simp)
    have ih := ih (h.subset fun q hq => by simp [hq])
    simp only [pairsOf, List.map_cons, List.filterMap_cons, fetched, hr, Option.map_some, hk, hv] at ih ⊢
    rw [ih]

/-- **the tail of every scan**: of a selection of index entries the wrapper shows the pairs of those that are
not dead, cut at the limit; an error when there are none -/
theorem scan_shows (s : State) (sel : Assoc Idx) (lim : Int) (now : Nat) (h : Shows s sel) :
    (nonEmptyOrErr (wrapper s (sel.map (·.2)) lim now)).map pairsOf =
      nonEmptyOrErr (.ok ((cut lim 0 (sel.filter fun p => !dead p.2.r now)).map fun p => (p.1, p.2.r.value))) := by
  have hfm : (sel.map (·.2)).filter (fun i => !dead i.r now) = (sel.filter fun p => !dead p.2.r now).map (·.2) := by
    rw [List.filter_map]; rfl
  have hfe : ∀ i ∈ sel.map (·.2), fetch s i = .ok (fetched s i) := by
    intro i hi
    obtain ⟨p, hp, rfl⟩ := List.mem_map.mp hi
    obtain ⟨r, hr, _⟩ := h p hp
    simp [fetched, hr]
  rw [wrapper_eq_nil s (fetched s) now lim _ hfe, hfm, cut_map]
  have hp := pairsOf_fetched s (cut lim 0 (sel.filter fun p => !dead p.2.r now))
    (h.subset fun p hp => (List.mem_filter.mp (mem_of_mem_cut hp)).1)
  cases hL : cut lim 0 (sel.filter fun p => !dead p.2.r now) with
  | nil => rfl
  | cons q qs => rw [hL] at hp; exact congrArg Outcome.ok hp

theorem scan_pairs (s : State) (sel : Assoc Idx) (lim : Int) (now : Nat) (h : Shows s sel) (hok : IdxOk sel) (hn : now < 2 ^ 64) :
    (nonEmptyOrErr (wrapper s (sel.map (·.2)) lim now)).map pairsOf =
      nonEmptyOrErr (.ok (cut lim 0 (liveBucket (absBucket sel) now))) := by
  rw [scan_shows s sel lim now h, liveBucket_abs sel now hok hn, cut_map]

theorem scan_keys (s : State) (m : Assoc Idx) (p : Bytes → Bool) (now : Nat) (h : Shows s m) (hok : IdxOk m) (hn : now < 2 ^ 64) :
    (nonEmptyOrErr (wrapper s ((m.filter fun x => p x.1).map (·.2)) (-1) now)).map pairsOf =
      if (liveBucket (absBucket m) now).filter (fun x => p x.1) = [] then .err
      else .ok ((liveBucket (absBucket m) now).filter fun x => p x.1) := by
  rw [scan_pairs s _ (-1) now (h.filter _) (hok.filter _) hn, cut_all, nonEmptyOrErr_ok, live_filter_keys]

/-! ### the reads of a bucket whose entries can be fetched -/

/-- what `Get` returns for a key, given the bucket's index (every entry committed, key+value mode) -/
def getIdx (m : Assoc Idx) (k : Bytes) (now : Nat) : Option Rec :=
  match aget? m k with
  | some i => if dead i.r now then none else some i.r
  | none => none

/-- **Get refines the ordered map**, bucket level: the value `Get` returns for `k` is the value the live
pairs of the abstraction hold for `k`, and it fails exactly when they hold none -/
theorem getIdx_refines (m : Assoc Idx) (k : Bytes) (now : Nat) (hs : Sorted m) (hok : IdxOk m) (hn : now < 2 ^ 64) :
    (getIdx m k now).map (·.value) = ((liveBucket (absBucket m) now).find? (·.1 = k)).map (·.2) := by
  rw [find_eq_aget, liveBucket_abs m now hok hn, aget_map (fun i : Idx => i.r.value), aget_filter _ m k hs]
  unfold getIdx
  cases aget? m k with
  | none => rfl
  | some i => cases h : dead i.r now <;> simp [Option.filter, h]

theorem get_value (s : State) (b k : Bytes) (now : Nat) (h : Shows s (bucketOf s b))
    (hc : ∀ p ∈ bucketOf s b, s.committed.contains p.2.r.txid = true) :
    (DB.get s b k now).map (Option.map (·.value)) =
      ((getIdx (bucketOf s b) k now).map (·.value)).elim .err fun v => .ok (some v) := by
  rw [get_eq]
  unfold getIdx
  cases hk : aget? (bucketOf s b) k with
  | none => rfl
  | some i =>
    have hmem := aget_mem _ k i hk
    obtain ⟨r, hr, _, hv⟩ := h _ hmem
    have hc : i.r.txid ∈ s.committed := by simpa using hc _ hmem
    cases hd : dead i.r now <;> simp [hc, hd, hr, hv, Outcome.map]

/-- **PrefixScan / PrefixSearchScan**, any offset and limit, dead records included: if the walk selects the
entries `sel` of the bucket, the scan shows the live pairs of `sel`, cut at the limit once more. (The walk
pages through the entries with the prefix, dead or not — `PrefixRefine.prefixWalk_sorted`: finding D-SCAN-DEAD is
the difference to the spec's page of the live pairs.) -/
theorem prefixScan_pairs (s : State) (b pre : Bytes) (off lim : Int) (mt : Bytes → Bool) (now : Nat) (sel : Assoc Idx)
    (hsel : (prefixWalk (bucketOf s b) pre off lim mt).1 = sel.map (·.2)) (h : Shows s sel) (hok : IdxOk sel)
    (hn : now < 2 ^ 64) :
    (prefixScan s b pre off lim now mt).map pairsOf = nonEmptyOrErr (.ok (cut lim 0 (liveBucket (absBucket sel) now))) := by
  rw [prefixScan_eq, hsel, scan_pairs s sel lim now h hok hn]

/-- **GetAll refines the ordered map**, bucket level (key+value mode): the pairs it returns are the live
pairs of the abstraction, in the same order; it fails exactly when there are none -/
theorem getAll_refines (s : State) (hm : s.opt.mode = 0) (b : Bytes) (m : Assoc Idx) (hb : bucketIdx s b = some m)
    (now : Nat) (hok : IdxOk m) (hn : now < 2 ^ 64) :
    (getAll s b now).map pairsOf =
      if liveBucket (absBucket m) now = [] then .err else .ok (liveBucket (absBucket m) now) := by
  rw [getAll_eq, bucketOf_some hb, scan_pairs s m (-1) now (.of_mode0 hm hok) hok hn, cut_all, nonEmptyOrErr_ok]

/-- **RangeScan refines the ordered map**, bucket level (key+value mode): the live pairs with
`start ≤ key ≤ end`, in the same order; an error when `start > end` or there are none -/
theorem rangeScan_refines (s : State) (hm : s.opt.mode = 0) (b : Bytes) (m : Assoc Idx) (hb : bucketIdx s b = some m)
    (st en : Bytes) (now : Nat) (hok : IdxOk m) (hn : now < 2 ^ 64) :
    (rangeScan s b st en now).map pairsOf =
      if bcmp st en == .gt then .err
      else
        let want := (liveBucket (absBucket m) now).filter fun x => ble st x.1 && ble x.1 en
        if want = [] then .err else .ok want := by
  rw [rangeScan_eq, bucketOf_some hb]
  split
  · rfl
  · exact scan_keys s m (fun k => ble st k && ble k en) now (.of_mode0 hm hok) hok hn

/-! ### the refinement relation -/

def KVSorted (kv : Assoc (Assoc Idx)) : Prop := ∀ b m, aget? kv b = some m → Sorted m

theorem KVSorted.bucket {kv : Assoc (Assoc Idx)} (h : KVSorted kv) (b : Bytes) : Sorted ((aget? kv b).getD []) := by
  cases hq : aget? kv b with
  | none => exact List.Pairwise.nil
  | some m => exact h b m hq

theorem KVSorted.look_of_mem {kv : Assoc (Assoc Idx)} (hs : KVSorted kv) {b : Bytes} {m : Assoc Idx} {p : Bytes × Idx}
    (hm : aget? kv b = some m) (hp : p ∈ m) : MergeKV.look kv b p.1 = some p.2 := by
  unfold MergeKV.look; rw [hm]; exact aget_of_mem_sorted m p (hs b m hm) hp

abbrev AllIdx (kv : Assoc (Assoc Idx)) (P : Bytes → Idx → Prop) : Prop := MergeKV.AllB kv fun _ k i => P k i

theorem AllIdx.bucket {kv : Assoc (Assoc Idx)} {P : Bytes → Idx → Prop} (h : AllIdx kv P) (b : Bytes) :
    ∀ p ∈ (aget? kv b).getD [], P p.1 p.2 := by
  cases hq : aget? kv b with
  | none => nofun
  | some m => exact fun p hp => h b m p hq hp

/-- **`s` presents the map `A`**: what the reads need of a state to answer as the spec does on `A` — in either RAM
index mode, for `fetch` is the only place where the mode and the files come in -/
structure Presents (s : State) (A : Assoc (Assoc SKV)) : Prop where
  abs : absKV s.kv = A
  sorted : KVSorted s.kv
  ok : AllIdx s.kv fun k i => (i.r.flag = flagSet ∨ i.r.flag = flagDelete) ∧ i.r.ts + i.r.ttl < 2 ^ 64 ∧ i.r.key = k
  committed : AllIdx s.kv fun _ i => s.committed.contains i.r.txid = true
  fetches : AllIdx s.kv fun _ i => ∃ r, fetch s i = .ok (some r) ∧ committedRec r = committedRec i.r

theorem fetches_mode0 (s : State) (hm : s.opt.mode = 0) :
    AllIdx s.kv fun _ i => ∃ r, fetch s i = .ok (some r) ∧ committedRec r = committedRec i.r :=
  fun _ _ p _ _ => ⟨p.2.r, fetch_mode0 s hm p.2, rfl⟩

/-- bucket by bucket, a missing bucket being an empty one on both sides -/
theorem Presents.bucket {s : State} {A : Assoc (Assoc SKV)} (h : Presents s A) (b : Bytes) :
    (aget? A b).getD [] = absBucket (bucketOf s b) ∧ Sorted (bucketOf s b) ∧ IdxOk (bucketOf s b) ∧
    (∀ p ∈ bucketOf s b, s.committed.contains p.2.r.txid = true) ∧ Shows s (bucketOf s b) := by
  refine ⟨?_, h.sorted.bucket b, h.ok.bucket b, h.committed.bucket b, fun p hp => ?_⟩
  · rw [← h.abs]; exact aget_absKV s.kv b
  · obtain ⟨r, hr, hrc⟩ := h.fetches.bucket b p hp
    exact ⟨r, hr, (show (committedRec r).key = (committedRec p.2.r).key from congrArg Rec.key hrc).trans (h.ok.bucket b p hp).2.2,
      show (committedRec r).value = (committedRec p.2.r).value from congrArg Rec.value hrc⟩

/-- **Reads refine the ordered map**: `Get`, `GetAll`, `RangeScan` and the prefix scans without offset and limit
of a state that presents `A` are the spec's reads of `A` -/
theorem Presents.reads {s : State} {A : Assoc (Assoc SKV)} (h : Presents s A) (now : Nat) (hn : now < 2 ^ 64) (b : Bytes) :
    let lv := liveBucket ((aget? A b).getD []) now
    (∀ k, (DB.get s b k now).map (Option.map (·.value)) =
        ((lv.find? (·.1 = k)).map (·.2)).elim .err fun v => .ok (some v)) ∧
    ((getAll s b now).map pairsOf = if lv = [] then .err else .ok lv) ∧
    (∀ st en, (rangeScan s b st en now).map pairsOf =
        if bcmp st en == .gt then .err
        else if (lv.filter fun x => ble st x.1 && ble x.1 en) = [] then .err
        else .ok (lv.filter fun x => ble st x.1 && ble x.1 en)) ∧
    (∀ pre mt, (prefixScan s b pre 0 (-1) now mt).map pairsOf =
        if (lv.filter fun x => hasPrefix x.1 pre && mt x.1) = [] then .err
        else .ok (lv.filter fun x => hasPrefix x.1 pre && mt x.1)) := by
  obtain ⟨hA, hs, hok, hc, hsh⟩ := h.bucket b
  simp only [hA]
  refine ⟨fun k => ?_, ?_, fun st en => ?_, fun pre mt => ?_⟩
  · rw [get_value s b k now hsh hc, getIdx_refines _ k now hs hok hn]
  · rw [getAll_eq, scan_pairs s _ (-1) now hsh hok hn, cut_all, nonEmptyOrErr_ok]
  · rw [rangeScan_eq]
    split
    · rfl
    · exact scan_keys s _ (fun k => ble st k && ble k en) now hsh hok hn
  · rw [prefixScan_eq, PrefixRefine.prefixWalk_sorted _ hs, Paging.page_all, List.filter_filter]
    simp only [Bool.and_comm (hasPrefix _ _)]
    exact scan_keys s _ (fun k => mt k && hasPrefix k pre) now hsh hok hn

end NutsProofs.KVRefine
