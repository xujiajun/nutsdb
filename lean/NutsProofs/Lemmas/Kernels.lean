/-
  NutsProofs.Lemmas.Kernels — the two regenerated integer kernels (`NutsGen.K`) with deep trees, `zset_sanitizeIndexes`
  and `list_LRange`, in closed form. A kernel is the decision tree of the Go function's SSA; a theorem here says once
  which function of the arguments that tree computes, and the properties are then read off the closed form instead of
  off every leaf. Also here: the guard lemmas of C20's proofs about the small kernels (an event lies behind the tests
  that did not exit). The small kernels are unfolded where they are used (C05, C20; `isExpired` in KVReads and
  `db_isFilterEntry` in `NutsProofs/Facts.lean`, neither of which needs this module).
-/
import NutsGen.Kernels
import Nuts.Spec.RList
namespace NutsProofs.Kernels
open Nuts Nuts.Spec

theorem wrap64_of_inRange {x : Int} (h : inRange64 x) : wrap64 x = x := by
  unfold wrap64; unfold inRange64 at h; omega

/-! ### guards: a kernel emits an event only behind the tests that did not leave through an exit -/

theorem mem_events_ite {c : Prop} [Decidable c] {x y : KOut} {ev : KEv} (h : ev ∈ (if c then x else y).events) :
    (c ∧ ev ∈ x.events) ∨ (¬ c ∧ ev ∈ y.events) := by
  split at h
  · exact Or.inl ⟨‹_›, h⟩
  · exact Or.inr ⟨‹_›, h⟩

/-- `if c { return … }` with an exit that emits nothing: execution went on, with `¬ c` -/
theorem mem_events_guard {c : Prop} [Decidable c] {r : Nat} {v : List Int} {y : KOut} {ev : KEv}
    (h : ev ∈ (if c then { events := [], ret := r, vals := v } else y).events) : ¬ c ∧ ev ∈ y.events :=
  (mem_events_ite h).elim (fun h => nomatch h.2) id

theorem mem_events_guard' {c : Prop} [Decidable c] {r : Nat} {v : List Int} {y : KOut} {ev : KEv}
    (h : ev ∈ (if c then y else { events := [], ret := r, vals := v }).events) : c ∧ ev ∈ y.events :=
  (mem_events_ite h).elim id (fun h => nomatch h.2)

/-! ### `sanitizeIndexes` -/

def atLeast1 (x : Int) : Int := if x ≤ 0 then 1 else x

theorem one_le_atLeast1 (x : Int) : 1 ≤ atLeast1 x := by unfold atLeast1; split <;> omega

/-- the subtree that `sanitizeIndexes` repeats under each sign combination -/
theorem sanitize_tree (X Y : Int) :
    (if X ≤ 0 then
        if Y ≤ 0 then ({ events := [], ret := 8, vals := [1, 1] } : KOut) else { events := [], ret := 8, vals := [1, Y] }
      else
        if Y ≤ 0 then { events := [], ret := 8, vals := [X, 1] } else { events := [], ret := 8, vals := [X, Y] }).vals =
      [atLeast1 X, atLeast1 Y] := by
  unfold atLeast1
  split <;> split <;> rfl

/-- `sanitizeIndexes(start, end)`: a negative index counts from the tail (`len + i + 1`, wrapping), then both
are raised to 1 -/
theorem sanitize_vals (a b n m : Int) :
    (NutsGen.K.zset_sanitizeIndexes.run a b n m).vals =
      [atLeast1 (if a < 0 then wrap64 (wrap64 (wrap64 n + a) + 1) else a),
       atLeast1 (if b < 0 then wrap64 (wrap64 (wrap64 m + b) + 1) else b)] := by
  unfold NutsGen.K.zset_sanitizeIndexes.run
  by_cases h1 : a < 0 <;> by_cases h2 : b < 0 <;> simp only [h1, h2, if_true, if_false] <;> exact sanitize_tree _ _

theorem sanitize_vals_pos (a b n m : Int) :
    ∃ x y, (NutsGen.K.zset_sanitizeIndexes.run a b n m).vals = [x, y] ∧ 1 ≤ x ∧ 1 ≤ y :=
  ⟨_, _, sanitize_vals a b n m, one_le_atLeast1 _, one_le_atLeast1 _⟩

/-! ### `List.LRange` -/

/-- the start index as the Go code computes it: a negative one counts from the tail, then clamped at 0 -/
def lrStart (n s : Int) : Int := if s < 0 then (if wrap64 (n + s) < 0 then 0 else wrap64 (n + s)) else s

/-- the stop index: a negative one counts from the tail, then clamped at `n - 1` -/
def lrStop (n e : Int) : Int :=
  if e < 0 then (if wrap64 (n + e) ≥ n then wrap64 (n - 1) else wrap64 (n + e))
  else if e ≥ n then wrap64 (n - 1) else e

/-- the two exits of `LRange`: "start > end" error, or `items[lo : hi+1]` -/
def lrOut (lo hi : Int) : KOut :=
  if lo > hi then { events := [], ret := 16, vals := [0, 1] }
  else { events := [KEv.slice 0 (some lo) (some (wrap64 (hi + 1)))], ret := 17, vals := [1, 1] }

/-- the subtree that `LRange` repeats: the clamping of the start (`c1`) and of the stop (`c2`) above the exit -/
theorem lrOut_tree (c1 c2 : Prop) [Decidable c1] [Decidable c2] (a b L X : Int) :
    (if c1 then (if c2 then lrOut a L else lrOut a X) else (if c2 then lrOut b L else lrOut b X)) =
      lrOut (if c1 then a else b) (if c2 then L else X) := by
  split <;> split <;> rfl

/-- the tree of `LRange` (key present) tests the signs of `start` and `end` first and repeats the clamping and
the exit under each combination; it computes the two indexes independently. The signs are settled on the
closed form first: under `end ≥ 0` the tree still tests `0 > end`, which must stay as the exit's test. -/
theorem LRange_run (s e n : Int) :
    NutsGen.K.list_LRange.run s e n false = lrOut (lrStart n s) (lrStop n e) := by
  unfold lrStart lrStop
  by_cases h1 : s < 0 <;> by_cases h2 : e < 0
  · rw [if_pos h1, if_pos h2]
    unfold NutsGen.K.list_LRange.run
    rw [if_neg Bool.false_ne_true, if_neg (Int.not_le.mpr h1), if_neg (Int.not_le.mpr h2)]
    exact lrOut_tree _ _ _ _ _ _
  · rw [if_pos h1, if_neg h2]
    unfold NutsGen.K.list_LRange.run
    rw [if_neg Bool.false_ne_true, if_neg (Int.not_le.mpr h1), if_pos (Int.not_lt.mp h2)]
    exact lrOut_tree _ _ _ _ _ _
  · rw [if_neg h1, if_pos h2]
    unfold NutsGen.K.list_LRange.run
    rw [if_neg Bool.false_ne_true, if_pos (Int.not_lt.mp h1), if_pos h2]
    exact (apply_ite (lrOut s) _ _ _).symm
  · rw [if_neg h1, if_neg h2]
    unfold NutsGen.K.list_LRange.run
    rw [if_neg Bool.false_ne_true, if_pos (Int.not_lt.mp h1), if_neg h2]
    exact (apply_ite (lrOut s) _ _ _).symm

/-! ### the Redis indexes of `Nuts.Spec.RList` -/

theorem startIdx_nonneg (n : Nat) (s : Int) : 0 ≤ RList.startIdx n s := by
  unfold RList.startIdx; split <;> omega

theorem stopIdx_lt (n : Nat) (e : Int) : RList.stopIdx n e < n := by
  unfold RList.stopIdx; split <;> omega

/-- no sum wraps for a list shorter than 2^62 and machine integers -/
theorem lrStart_eq (n : Nat) (s : Int) (hn : (n : Int) < 4611686018427387904) (hs : inRange64 s) :
    lrStart n s = RList.startIdx n s := by
  unfold lrStart RList.startIdx RList.norm
  split
  · rw [wrap64_of_inRange (by unfold inRange64 at *; omega)]
  · rfl

theorem lrStop_eq (n : Nat) (e : Int) (hn : (n : Int) < 4611686018427387904) (he : inRange64 e) :
    lrStop n e = RList.stopIdx n e := by
  unfold lrStop RList.stopIdx RList.norm
  rw [wrap64_of_inRange (x := n - 1) (by unfold inRange64; omega)]
  split
  · rw [wrap64_of_inRange (by unfold inRange64 at *; omega)]
  · rfl

end NutsProofs.Kernels
