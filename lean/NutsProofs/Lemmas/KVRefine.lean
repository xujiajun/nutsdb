/-
  NutsProofs.Lemmas.KVRefine — which states present which maps (`Presents`, `Lemmas/KVReads`): the abstraction
  `absKV` commutes with applying a record (`absKV_kvPut`: a put is `Spec.kvPut`, anything else `Spec.kvDel`), so along
  every log the abstraction of the index is the spec's map after the same puts and deletes, and a state with the log
  invariant presents it (`presents_of_logInv`).
-/
import NutsProofs.Lemmas.Reopen
import NutsProofs.Lemmas.KVReads
namespace NutsProofs.KVRefine
open Nuts Nuts.Model Nuts.Model.DB NutsProofs.Reopen
open Nuts.Spec.DB (SKV SpecDB erase live liveOf kvGet)

/-! ### applying a record commutes with the abstraction -/

/-- what a key/value record does to the spec's map: `Spec.kvPut` for a put, `Spec.kvDel` for anything else -/
def specApply (a : Assoc (Assoc SKV)) (r : Rec) : Assoc (Assoc SKV) :=
  if r.flag == flagSet then aput a r.bucket (upsert ((aget? a r.bucket).getD []) r.key ⟨r.value, r.ts, r.ttl⟩)
  else aput a r.bucket (erase ((aget? a r.bucket).getD []) r.key)

theorem specApply_put (s : SpecDB) (r : Rec) (h : r.flag = flagSet) :
    specApply s.kv r = (Nuts.Spec.DB.kvPut s r.bucket r.key r.value r.ts r.ttl).kv := by
  simp [specApply, Nuts.Spec.DB.kvPut, h]

theorem specApply_del (s : SpecDB) (r : Rec) (h : r.flag ≠ flagSet) :
    specApply s.kv r = (Nuts.Spec.DB.kvDel s r.bucket r.key).kv := by
  have : (r.flag == flagSet) = false := by simpa using h
  simp [specApply, Nuts.Spec.DB.kvDel, this]

theorem absBucket_upsert (m : Assoc Idx) (k : Bytes) (i : Idx) (hs : Sorted m) :
    absBucket (upsert m k i) =
      if i.r.flag == flagSet then upsert (absBucket m) k (skvOf i) else erase (absBucket m) k := by
  unfold absBucket
  cases hf : i.r.flag == flagSet with
  | true => rw [if_pos rfl, filter_upsert_keep isSet m k i hs hf]; exact upsert_map skvOf _ k i
  | false => rw [if_neg Bool.false_ne_true, filter_upsert_drop isSet m k i hs hf, erase, List.filter_map]; rfl

theorem absKV_kvPut (kv : Assoc (Assoc Idx)) (r : Rec) (fid pos : Nat) (hs : KVSorted kv) :
    absKV (kvPut kv r fid pos) = specApply (absKV kv) r := by
  have hg : ((aget? kv r.bucket).map absBucket).getD [] = absBucket ((aget? kv r.bucket).getD []) := by
    cases aget? kv r.bucket <;> rfl
  unfold kvPut absKV specApply
  rw [aput_map absBucket, absBucket_upsert _ _ _ (hs.bucket r.bucket), aget_map absBucket, hg]
  split <;> rfl

theorem absBucket_norm (m : Assoc Idx) : absBucket (normBucket m) = absBucket m := by
  unfold absBucket normBucket
  rw [List.filter_map, List.map_map]
  rfl

theorem absKV_norm (kv : Assoc (Assoc Idx)) : absKV (normKV kv) = absKV kv := by
  unfold absKV normKV
  rw [List.map_map]
  apply List.map_congr_left
  intro p _
  simp [absBucket_norm]

/-! ### along the log -/

theorem kvPut_buckets (Q : Assoc Idx → Prop) (kv : Assoc (Assoc Idx)) (r : Rec) (fid pos : Nat)
    (h : ∀ b m, aget? kv b = some m → Q m) (h0 : Q []) (hstep : ∀ m, Q m → Q (upsert m r.key ⟨r, fid, pos⟩)) :
    ∀ b m, aget? (kvPut kv r fid pos) b = some m → Q m := by
  intro b m hm
  unfold kvPut at hm
  by_cases hb : b = r.bucket
  · subst hb
    rw [aget_aput_self] at hm
    cases hm
    apply hstep
    cases hq : aget? kv r.bucket with
    | none => exact h0
    | some m0 => exact h _ _ hq
  · rw [aget_aput_other _ _ _ _ hb] at hm
    exact h b m hm

theorem foldLog_buckets (Q : Assoc Idx → Prop) (L : List LogRec) (kv : Assoc (Assoc Idx))
    (h : ∀ b m, aget? kv b = some m → Q m) (h0 : Q [])
    (hstep : ∀ x ∈ L, ∀ m, Q m → Q (upsert m x.1.key ⟨committedRec x.1, x.2.1, x.2.2⟩)) :
    ∀ b m, aget? (foldLog kv L) b = some m → Q m := by
  induction L generalizing kv with
  | nil => exact h
  | cons x rest ih =>
    simp only [foldLog, List.foldl_cons]
    exact ih _ (kvPut_buckets Q kv _ _ _ h h0 (hstep x (by simp))) (fun y hy => hstep y (by simp [hy]))

theorem kvPut_sorted (kv : Assoc (Assoc Idx)) (r : Rec) (fid pos : Nat) (h : KVSorted kv) : KVSorted (kvPut kv r fid pos) :=
  kvPut_buckets Sorted kv r fid pos h List.Pairwise.nil fun m hm => upsert_sorted m _ _ hm

theorem foldLog_sorted (L : List LogRec) (kv : Assoc (Assoc Idx)) (h : KVSorted kv) : KVSorted (foldLog kv L) :=
  foldLog_buckets Sorted L kv h List.Pairwise.nil fun _ _ m hm => upsert_sorted m _ _ hm

theorem foldLog_abs (L : List LogRec) (kv : Assoc (Assoc Idx)) (h : KVSorted kv) :
    absKV (foldLog kv L) = (L.map (·.1)).foldl specApply (absKV kv) := by
  induction L generalizing kv with
  | nil => rfl
  | cons x rest ih =>
    simp only [foldLog, List.foldl_cons, List.map_cons]
    have := ih (kvPut kv (committedRec x.1) x.2.1 x.2.2) (kvPut_sorted kv _ _ _ h)
    simp only [foldLog] at this
    rw [this, absKV_kvPut kv _ _ _ h]
    rfl

theorem kvSorted_nil : KVSorted [] := by intro b m h; simp [aget?] at h

/-- records the API writes: flag Set or Delete, expiry time within 64 bits -/
def RecOk (r : Rec) : Prop := (r.flag = flagSet ∨ r.flag = flagDelete) ∧ r.ts + r.ttl < 2 ^ 64

/-- everything the reads need, for the index a log denotes -/
theorem kvOfLog_props (L : List LogRec) (hL : ∀ x ∈ L, RecOk x.1) :
    KVSorted (kvOfLog L) ∧ absKV (kvOfLog L) = (L.map (·.1)).foldl specApply [] ∧
    AllIdx (kvOfLog L) (fun k i => (i.r.flag = flagSet ∨ i.r.flag = flagDelete) ∧ i.r.ts + i.r.ttl < 2 ^ 64 ∧ i.r.key = k) ∧
    AllIdx (kvOfLog L) (fun _ i => ∃ x ∈ L, i.r.txid = x.1.txid) := by
  refine ⟨foldLog_sorted L [] kvSorted_nil, foldLog_abs L [] kvSorted_nil, ?_, ?_⟩
  · exact MergeKV.foldLog_allB L [] _ (.nil _) fun x hx => ⟨(hL x hx).1, (hL x hx).2, rfl⟩
  · exact (MergeKV.kvOfLog_entries L).imp fun _ _ _ ⟨x, hx, e⟩ => ⟨x, hx, e ▸ rfl⟩

/-! ### states -/

theorem allIdx_norm {kv : Assoc (Assoc Idx)} {P : Bytes → Idx → Prop} (h : AllIdx (normKV kv) P) :
    AllIdx kv fun k i => P k (normIdx i) := by
  intro b m p hb hp
  have : aget? (normKV kv) b = some (normBucket m) := by unfold normKV; rw [aget_map normBucket, hb]; rfl
  exact h b _ (p.1, normIdx p.2) this (List.mem_map.mpr ⟨p, hp, rfl⟩)

theorem kvSorted_norm {kv : Assoc (Assoc Idx)} (h : KVSorted (normKV kv)) : KVSorted kv := by
  intro b m hb
  have : aget? (normKV kv) b = some (normBucket m) := by unfold normKV; rw [aget_map normBucket, hb]; rfl
  exact (sorted_map normIdx m).mp (h b _ this)

/-- the spec's map after a log -/
def specOfLog (recs : List Rec) : Assoc (Assoc SKV) := recs.foldl specApply []

theorem specApply_markLast (a : Assoc (Assoc SKV)) (r : Rec) (l : Bool) : specApply a (markLast r l) = specApply a r := by
  unfold markLast; split <;> rfl

theorem foldl_specApply_marked (t : List Rec) (a : Assoc (Assoc SKV)) : (marked t).foldl specApply a = t.foldl specApply a := by
  induction t generalizing a with
  | nil => rfl
  | cons r rest ih => simp only [marked, List.foldl_cons, specApply_markLast]; exact ih _

/-- the spec's map after a history: every committed transaction's puts and deletes, in order -/
def specOfOps (ops : List Op) : Assoc (Assoc SKV) :=
  ops.foldl (fun a op => match op with | .commit t => t.foldl specApply a | .reopen _ => a) []

theorem specOfLog_logOf (ops : List Op) (a : Assoc (Assoc SKV)) :
    (logOf ops).foldl specApply a = ops.foldl (fun a op => match op with | .commit t => t.foldl specApply a | .reopen _ => a) a := by
  induction ops generalizing a with
  | nil => rfl
  | cons op rest ih =>
    cases op with
    | commit t => simp only [logOf, List.foldl_append, List.foldl_cons, foldl_specApply_marked]; exact ih _
    | reopen o => simp only [logOf, List.foldl_cons]; exact ih _

/-- the state whose index is the log's index verbatim (the real state's, with every cached record's
status byte set) -/
def normState (s : State) : State := { s with kv := normKV s.kv }

theorem presents_of_logInv (s : State) (h : LogInv s) (hL : ∀ x ∈ allRecs s.files, RecOk x.1)
    (hf : AllIdx s.kv fun _ i => ∃ r, fetch s i = .ok (some r) ∧ committedRec r = committedRec i.r) :
    Presents s (specOfLog ((allRecs s.files).map (·.1))) := by
  obtain ⟨hsorted, habs, hidx, htx⟩ := kvOfLog_props (allRecs s.files) hL
  rw [← h.idx] at hsorted habs hidx htx
  refine ⟨by rw [← absKV_norm, habs]; rfl, kvSorted_norm hsorted, allIdx_norm hidx, ?_, hf⟩
  intro b m p hb hp
  obtain ⟨x, hx, hxt⟩ := allIdx_norm htx b m p hb hp
  have : x.1.txid ∈ s.committed := (h.ids _).mpr (h.allCommitted x hx)
  simpa [show p.2.r.txid = x.1.txid from hxt] using this

/-- **Reads refine the ordered map**, for any state that satisfies the log invariant in key+value mode and
whose log holds API-written records only. `A` is the spec's map after the records of the log. -/
theorem reads_refine (s : State) (h : LogInv s) (hm : s.opt.mode = 0) (hL : ∀ x ∈ allRecs s.files, RecOk x.1)
    (now : Nat) (hn : now < 2 ^ 64) (b : Bytes) :
    let A := specOfLog ((allRecs s.files).map (·.1))
    let live := liveBucket ((aget? A b).getD []) now
    (∀ k, (DB.get s b k now).map (Option.map (·.value)) =
        match (live.find? (·.1 = k)).map (·.2) with | some v => .ok (some v) | none => .err) ∧
    ((getAll s b now).map pairsOf = if live = [] then .err else .ok live) ∧
    (∀ st en, (rangeScan s b st en now).map pairsOf =
        if bcmp st en == .gt then .err
        else if (live.filter fun x => ble st x.1 && ble x.1 en) = [] then .err
        else .ok (live.filter fun x => ble st x.1 && ble x.1 en)) := by
  intro A live
  obtain ⟨h1, h2, h3, _⟩ := (presents_of_logInv s h hL (fetches_mode0 s hm)).reads now hn b
  refine ⟨fun k => (h1 k).trans ?_, h2, h3⟩
  cases Option.map (·.2) (live.find? (·.1 = k)) <;> rfl

/-- every transaction of the history writes API records -/
def OpsRecOk (ops : List Op) : Prop := ∀ t, Op.commit t ∈ ops → ∀ r ∈ t, RecOk r

theorem logOf_recOk (ops : List Op) (h : OpsRecOk ops) : ∀ r ∈ logOf ops, RecOk r := by
  induction ops with
  | nil => intro r hr; cases hr
  | cons op rest ih =>
    have hrest : OpsRecOk rest := fun t ht => h t (List.mem_cons_of_mem _ ht)
    cases op with
    | commit t =>
      intro r hr
      rcases List.mem_append.mp hr with hr | hr
      · -- a marked record is a record of the transaction with the status byte set
        obtain ⟨q, hq, l, rfl⟩ := mem_marked hr
        have := h t (by simp) q hq
        unfold markLast; split <;> exact this
      · exact ih hrest r hr
    | reopen o => intro r hr; exact ih hrest r (by simpa [logOf] using hr)

end NutsProofs.KVRefine
